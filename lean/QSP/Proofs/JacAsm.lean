/-
  The assembly of `gen_jacobian()` (`JacImpl.jacAssemble`, `QSP/Model/JacImpl.lean`): with the
  exact DFT cosines, applied to the samples at `θ_n = n·π/(2d)`, `n = 0 … d`, of functions that are
  cosine sums `Σ_{k<d} a_k cos((2k+par)θ)`, the mirror/sign extension, the real DFT, the doubling,
  the division by `2·dd` and the slicing return exactly the coefficients `a_i` (`jacAssemble_spec`).
  The rows `gen_poly_jacobian_components(cos θ_n)` are such samples (`QSP/Proofs/JacImpl.lean`,
  `QSP/Proofs/JacCoeff.lean`), so in exact arithmetic `gen_jacobian()` returns the Chebyshev
  coefficients of the value and of every partial derivative (`jacAssemble_sampleMat`).
-/
import QSP.Proofs.JacCoeff
import QSP.Proofs.JacImpl

open Finset
namespace QSP
namespace JacImpl

/-! ## cosine sums and the nodes -/

/-- `θ_m = m·π/(2d)`, written as the DFT angle `2πm/(4d)`.  These `4d` nodes are the code's; the
    functional `cosCoefF` that DEFINES `chebCoefs` / `dCoefs` (`QSP/Proofs/JacCoeff.lean`) takes its
    mean over `4d+1` nodes of its own.  Both node sets exceed every sum `≤ 4d−2` of two frequencies
    of the class, so `sum_cosSum_cos_nodes` gives the same coefficients on either; nothing else
    relates the two. -/
noncomputable def asmNode (d m : ℕ) : ℝ := 2 * Real.pi * (m : ℝ) / ((4 * d : ℕ) : ℝ)

noncomputable def cosSum (par d : ℕ) (a : ℕ → ℝ) (θ : ℝ) : ℝ :=
  ∑ k ∈ range d, a k * Real.cos (((2 * k + par : ℕ) : ℝ) * θ)

theorem cosGenR_eq_cosSum (par d : ℕ) (c : List ℝ) (θ : ℝ) :
    cosGenR par d c θ = cosSum par d (fun k => c.getD k 0) θ := rfl

/-- the sign `(−1)^parity` as the model computes it -/
noncomputable def sgnR (par : ℕ) : ℝ := if par % 2 = 0 then 1 else -1

theorem sgnR_mul_self (par : ℕ) : sgnR par * sgnR par = 1 := by
  unfold sgnR; split_ifs <;> norm_num

theorem cosSum_pi_sub (par d : ℕ) (a : ℕ → ℝ) (θ : ℝ) :
    cosSum par d a (Real.pi - θ) = sgnR par * cosSum par d a θ := by
  unfold cosSum
  rw [Finset.mul_sum]
  refine Finset.sum_congr rfl fun k _ => ?_
  have h1 : ((2 * k + par : ℕ) : ℝ) * (Real.pi - θ)
      = -(((2 * k + par : ℕ) : ℝ) * θ - ((2 * k + par : ℕ) : ℝ) * Real.pi) := by ring
  rw [h1, Real.cos_neg, Real.cos_sub_nat_mul_pi]
  have h2 : ((-1 : ℝ)) ^ (2 * k + par) = sgnR par := by
    rw [pow_add, pow_mul, neg_one_sq, one_pow, one_mul]
    unfold sgnR
    split_ifs with h
    · exact Even.neg_one_pow (Nat.even_iff.mpr h)
    · exact Odd.neg_one_pow (Nat.odd_iff.mpr (by omega))
  rw [h2]; ring

theorem cosSum_two_pi_sub (par d : ℕ) (a : ℕ → ℝ) (θ : ℝ) :
    cosSum par d a (2 * Real.pi - θ) = cosSum par d a θ := by
  unfold cosSum
  refine Finset.sum_congr rfl fun k _ => ?_
  have h1 : ((2 * k + par : ℕ) : ℝ) * (2 * Real.pi - θ)
      = ((2 * k + par : ℕ) : ℝ) * (2 * Real.pi) - ((2 * k + par : ℕ) : ℝ) * θ := by ring
  rw [h1, Real.cos_nat_mul_two_pi_sub]

theorem asmNode_sub (d : ℕ) {m n : ℕ} (h : m ≤ n) :
    asmNode d (n - m) = asmNode d n - asmNode d m := by
  unfold asmNode
  rw [Nat.cast_sub h, mul_sub, sub_div]

theorem asmNode_two (d : ℕ) (hd : 0 < d) : asmNode d (2 * d) = Real.pi := by
  unfold asmNode
  rw [div_eq_iff (Nat.cast_ne_zero.mpr (by omega))]
  push_cast
  ring

theorem asmNode_four (d : ℕ) (hd : 0 < d) : asmNode d (4 * d) = 2 * Real.pi :=
  mul_div_cancel_right₀ _ (Nat.cast_ne_zero.mpr (by omega))

/-! ## the mirror statements: row `m < 4d` holds the samples at `θ_m` -/

theorem getD_extHalf (par d : ℕ) (M : List (List ℝ)) (j c : ℕ) :
    (extHalf par d M j).getD c 0
      = if j ≤ d then (M.getD j []).getD c 0 else sgnR par * (M.getD (2 * d - j) []).getD c 0 := by
  unfold extHalf
  by_cases h : j ≤ d
  · simp only [if_pos h]
  · simp only [if_neg h]
    exact getD_map_of_eq (sgnR par * ·) (mul_zero _) _ c

section ext
variable (par d : ℕ) (hd : 0 < d) (a : ℕ → ℝ) (M : List (List ℝ)) (c : ℕ)
  (hM : ∀ n ≤ d, (M.getD n []).getD c 0 = cosSum par d a (asmNode d n))
include hd hM

theorem extHalf_getD (j : ℕ) (hj : j ≤ 2 * d) :
    (extHalf par d M j).getD c 0 = cosSum par d a (asmNode d j) := by
  rw [getD_extHalf]
  split_ifs with h1
  · exact hM j h1
  · rw [hM _ (by omega), asmNode_sub d hj, asmNode_two d hd, cosSum_pi_sub, ← mul_assoc,
      sgnR_mul_self, one_mul]

theorem extRow_getD (m : ℕ) (hm : m < 4 * d) :
    (extRow par d M m).getD c 0 = cosSum par d a (asmNode d m) := by
  unfold extRow
  split_ifs with h1
  · exact extHalf_getD par d hd a M c hM m h1
  · rw [extHalf_getD par d hd a M c hM _ (by omega), asmNode_sub d hm.le, asmNode_four d hd,
      cosSum_two_pi_sub]

end ext

/-! ## the real DFT with the exact cosines; the assembled entries -/

theorem list_sum_range_map (f : ℕ → ℝ) (n : ℕ) :
    ((List.range n).map f).sum = ∑ i ∈ range n, f i := rfl

theorem cos_tab_mod (N : ℕ) (hN : 0 < N) (x : ℕ) :
    Real.cos (2 * Real.pi * ((x % N : ℕ) : ℝ) / (N : ℝ))
      = Real.cos (2 * Real.pi * (x : ℝ) / (N : ℝ)) := by
  have hN' : (N : ℝ) ≠ 0 := Nat.cast_ne_zero.mpr hN.ne'
  have hx : ((x % N : ℕ) : ℝ) + (N : ℝ) * ((x / N : ℕ) : ℝ) = x := by
    exact_mod_cast Nat.mod_add_div x N
  have h : 2 * Real.pi * (x : ℝ) / N
      = 2 * Real.pi * ((x % N : ℕ) : ℝ) / N + ((x / N : ℕ) : ℝ) * (2 * Real.pi) := by
    rw [← hx, mul_add, add_div, mul_left_comm (2 * Real.pi), mul_div_cancel_left₀ _ hN',
      mul_comm (2 * Real.pi) ((x / N : ℕ) : ℝ)]
  rw [h, Real.cos_add_nat_mul_two_pi]

theorem dftRe_eq (d : ℕ) (hd : 0 < d) (cosTab : List ℝ)
    (hcos : ∀ j < 4 * d, cosTab.getD j 0 = Real.cos (2 * Real.pi * (j : ℝ) / ((4 * d : ℕ) : ℝ)))
    (row : ℕ → List ℝ) (r c : ℕ) :
    dftRe cosTab (4 * d) row r c
      = ∑ m ∈ range (4 * d), (row m).getD c 0 * Real.cos ((r : ℝ) * asmNode d m) := by
  unfold dftRe
  rw [list_sum_range_map]
  refine Finset.sum_congr rfl fun m _ => ?_
  rw [hcos _ (Nat.mod_lt _ (by omega)), cos_tab_mod _ (by omega), mul_comm]
  congr 2
  unfold asmNode
  push_cast
  ring

theorem sum_cosSum_cos (par d : ℕ) (hpar : par ≤ 1) (a : ℕ → ℝ) (i : ℕ) (hi : i < d) :
    ∑ m ∈ range (4 * d), cosSum par d a (asmNode d m)
        * Real.cos (((2 * i + par : ℕ) : ℝ) * asmNode d m)
      = a i * (if 2 * i + par = 0 then ((4 * d : ℕ) : ℝ) else ((4 * d : ℕ) : ℝ) / 2) :=
  sum_cosSum_cos_nodes (4 * d) (range d) (fun k => 2 * k + par) (fun _ _ _ _ h => by simpa using h)
    (fun k hk l hl => by have := mem_range.mp hk; have := mem_range.mp hl; omega) a i
    (mem_range.mpr hi)

theorem asmEntry_eq (par d : ℕ) (hpar : par ≤ 1) (hd : 0 < d) (cosTab : List ℝ)
    (hcos : ∀ j < 4 * d, cosTab.getD j 0 = Real.cos (2 * Real.pi * (j : ℝ) / ((4 * d : ℕ) : ℝ)))
    (a : ℕ → ℝ) (M : List (List ℝ)) (c : ℕ)
    (hM : ∀ n ≤ d, (M.getD n []).getD c 0 = cosSum par d a (asmNode d n)) (i : ℕ) (hi : i < d) :
    asmEntry par d cosTab ((4 * d : ℕ) : ℝ) M (par + 2 * i) c = a i := by
  unfold asmEntry
  simp only
  rw [dftRe_eq d hd cosTab hcos]
  have e : ∑ m ∈ range (4 * d), (extRow par d M m).getD c 0
        * Real.cos (((par + 2 * i : ℕ) : ℝ) * asmNode d m)
      = ∑ m ∈ range (4 * d), cosSum par d a (asmNode d m)
        * Real.cos (((2 * i + par : ℕ) : ℝ) * asmNode d m) := by
    refine Finset.sum_congr rfl fun m hm => ?_
    rw [extRow_getD par d hd a M c hM m (Finset.mem_range.mp hm), Nat.add_comm par]
  rw [e, sum_cosSum_cos par d hpar a i hi]
  have hN : ((4 * d : ℕ) : ℝ) ≠ 0 := Nat.cast_ne_zero.mpr (by omega)
  by_cases h0 : 2 * i + par = 0
  · rw [if_neg (by omega), if_pos h0, mul_div_assoc, div_self hN, mul_one]
  · rw [if_pos (by omega), if_neg h0, two_eq]
    field_simp

theorem jacAssemble_entries (par d : ℕ) (hpar : par ≤ 1) (cosTab : List ℝ) (dd2 : ℝ)
    (M : List (List ℝ)) :
    jacAssemble par d cosTab dd2 M
      = ((List.range d).map fun i => asmEntry par d cosTab dd2 M (par + 2 * i) d,
         (List.range d).map fun i => (List.range d).map fun c =>
           asmEntry par d cosTab dd2 M (par + 2 * i) c) := by
  unfold jacAssemble
  have hsel : (((List.range d).map fun i => par + 2 * i).filter (· < 2 * d))
      = (List.range d).map fun i => par + 2 * i := by
    rw [List.filter_eq_self]
    intro r hr
    obtain ⟨i, hi, rfl⟩ := List.mem_map.mp hr
    have := List.mem_range.mp hi
    simp only [decide_eq_true_eq]
    omega
  simp only [hsel, List.map_map]
  rfl

theorem jacAssemble_spec (par d : ℕ) (hpar : par ≤ 1) (hd : 0 < d) (cosTab : List ℝ)
    (hcos : ∀ j < 4 * d, cosTab.getD j 0 = Real.cos (2 * Real.pi * (j : ℝ) / ((4 * d : ℕ) : ℝ)))
    (a : ℕ → ℕ → ℝ) (M : List (List ℝ))
    (hM : ∀ c ≤ d, ∀ n ≤ d, (M.getD n []).getD c 0 = cosSum par d (a c) (asmNode d n)) :
    jacAssemble par d cosTab ((4 * d : ℕ) : ℝ) M
      = ((List.range d).map fun i => a d i,
         (List.range d).map fun i => (List.range d).map fun c => a c i) := by
  have h := fun c hc i hi => asmEntry_eq par d hpar hd cosTab hcos (a c) M c (hM c hc) i
    (List.mem_range.mp hi)
  rw [jacAssemble_entries par d hpar]
  exact Prod.ext (List.map_congr_left fun i hi => h d le_rfl i hi)
    (List.map_congr_left fun i hi => List.map_congr_left fun c hc =>
      h c (List.mem_range.mp hc).le i hi)

/-! ## the two halves together: recurrences at the nodes, then the assembly -/

theorem jacImplPt_dRespIm (par : ℕ) (hpar : par ≤ 1) (red : List ℝ) (θ : ℝ) (k : ℕ)
    (hk : k < red.length) :
    (jacImplPt par (pairs2Of red) (Real.cos θ) (Real.sin θ)).getD k 0 = dRespIm par red k θ := by
  rw [jacImplPt_col_brG par hpar red θ k hk]
  unfold dRespIm
  rw [← jacD_eq_jacDPairs]

/-- the matrix `gen_jacobian()` samples: row `n` is `gen_poly_jacobian_components(cos θ_n)`,
    `θ_n = n·π/(2d)`, `n = 0 … d` -/
noncomputable def sampleMat (par : ℕ) (red : List ℝ) : List (List ℝ) :=
  (List.range (red.length + 1)).map fun n =>
    jacImplPt par (pairs2Of red) (Real.cos (asmNode red.length n)) (Real.sin (asmNode red.length n))

theorem sampleMat_row (par : ℕ) (red : List ℝ) (n : ℕ) (hn : n ≤ red.length) :
    (sampleMat par red).getD n [] = jacImplPt par (pairs2Of red)
      (Real.cos (asmNode red.length n)) (Real.sin (asmNode red.length n)) :=
  (getD_range_map _ _ _ _).trans (if_pos (Nat.lt_succ_of_le hn))

theorem sampleMat_getD (par : ℕ) (hpar : par ≤ 1) (red : List ℝ) (hne : red ≠ []) (c n : ℕ)
    (hc : c ≤ red.length) (hn : n ≤ red.length) :
    ((sampleMat par red).getD n []).getD c 0
      = cosSum par red.length
          (fun k => if c < red.length then (dCoefs par red c).getD k 0
            else (chebCoefs par red).getD k 0) (asmNode red.length n) := by
  rw [sampleMat_row par red n hn]
  by_cases hlt : c < red.length
  · rw [jacImplPt_dRespIm par hpar red _ c hlt, dRespIm_eq_cosGenR par hpar red hne,
      cosGenR_eq_cosSum]
    simp only [if_pos hlt]
  · have hceq : c = red.length := by omega
    subst hceq
    rw [jacImplPt_last_brG par hpar red hne, ← respIm, respIm_eq_cosGenR par hpar red hne,
      cosGenR_eq_cosSum]
    simp only [if_neg hlt]

theorem jacAssemble_sampleMat (par : ℕ) (hpar : par ≤ 1) (red : List ℝ) (hne : red ≠ [])
    (cosTab : List ℝ)
    (hcos : ∀ j < 4 * red.length,
      cosTab.getD j 0 = Real.cos (2 * Real.pi * (j : ℝ) / ((4 * red.length : ℕ) : ℝ))) :
    jacAssemble par red.length cosTab ((4 * red.length : ℕ) : ℝ) (sampleMat par red)
      = ((List.range red.length).map fun i => (chebCoefs par red).getD i 0,
         (List.range red.length).map fun i =>
           (List.range red.length).map fun c => (dCoefs par red c).getD i 0) := by
  rw [jacAssemble_spec par red.length hpar (List.length_pos_iff.mpr hne) cosTab hcos _ _
    fun c hc n hn => sampleMat_getD par hpar red hne c n hc hn]
  refine Prod.ext ?_ (List.map_congr_left fun i _ => List.map_congr_left fun c hc => ?_)
  · simp only [lt_irrefl, if_false]
  · simp only [if_pos (List.mem_range.mp hc)]

end JacImpl
end QSP
