/-
  The executable `completeFG` (`QSP/Model/Completion.lean`, the glue of `_fg_completion`) read in
  `ℂ[z]` with `Gpoly`, `Grev`, `recipProd` of `QSP/Proofs/Completion.lean`.  The seed enters twice,
  independently: abstractly as `flipRoots` (`recipProd_flipRoots`), and for the executable as
  `flipC` inside `selRoots` (`recipProd_selRoots`, which `completeFG_sound` uses).

  With `z = w²`, `deg = #selected roots` (complex ones counted with their conjugates):
  `G(w) = w^{-deg} g(z)`, `G~(w) = w^{-deg} grev(z)` (`grev(z) = z^deg g(1/z) = ∏ (1 - s z)`),
  `1 - F F~ = w^{-2 deg} poly(z)`, `norm = poly[-1]`.  So `F F~ + G G~ = 1` is
  `ratio · g · grev = poly` in `ℂ[z]`, and the root finder's specification is
  `poly = norm · ∏_s (z - s)(z - 1/s)` — symmetric in `s ↔ 1/s`, hence the same statement for
  every seed.
-/
import QSP.Model.Completion
import QSP.Proofs.Sup
import QSP.Proofs.Completion
import Mathlib.Data.Complex.Basic
open Polynomial
namespace QSP

/-! ### abstract part: any non-zero selection, normalised by `g(0)`, completes -/
section
variable {K : Type} [Field K]

theorem Gpoly_coeff_zero (S : List K) : (Gpoly S).coeff 0 = (S.map fun s => -s).prod := by
  induction S with
  | nil => simp [Gpoly]
  | cons s S ih =>
    rw [Gpoly_cons, mul_coeff_zero, ih, coeff_sub, coeff_X_zero, coeff_C_zero, zero_sub,
      List.map_cons, List.prod_cons]

theorem Gpoly_coeff_zero_ne_zero (S : List K) : (Gpoly S).coeff 0 ≠ 0 ↔ ∀ s ∈ S, s ≠ 0 := by
  rw [Gpoly_coeff_zero, Ne, List.prod_eq_zero_iff, List.mem_map]
  exact ⟨fun h s hs hs0 => h ⟨s, hs, by rw [hs0, neg_zero]⟩,
    fun h ⟨s, hs, hs0⟩ => h s hs (neg_eq_zero.mp hs0)⟩

theorem pair_recip (s : K) (hs : s ≠ 0) :
    (X - C s) * (1 - C s * X) = C (-s) * ((X - C s) * (X - C s⁻¹)) := by
  rw [C_neg]
  linear_combination -(X - C s) * C_mul_C_inv hs

theorem Gpoly_mul_Grev (S : List K) (hS : ∀ s ∈ S, s ≠ 0) :
    Gpoly S * Grev S = C ((S.map fun s => -s).prod) * recipProd S := by
  induction S with
  | nil => simp [Gpoly, Grev, recipProd]
  | cons s S ih =>
    rw [List.forall_mem_cons] at hS
    rw [Gpoly_cons, Grev_cons, recipProd_cons, List.map_cons, List.prod_cons, C_mul,
      mul_mul_mul_comm, ih hS.2, pair_recip s hS.1, mul_mul_mul_comm]

/-- the pair factor `(X - a)(X - 1/a)` does not see whether `a` was replaced by `1/a` -/
theorem pair_flip (b : Bool) (a : K) :
    (X - C (if b then a⁻¹ else a)) * (X - C (if b then a⁻¹ else a)⁻¹)
      = (X - C a) * (X - C a⁻¹) := by
  cases b
  · rfl
  · rw [if_pos rfl, inv_inv, mul_comm]

theorem recipProd_flipRoots (S : List K) (seed : List Bool) :
    recipProd (flipRoots S seed) = recipProd S := by
  induction S generalizing seed with
  | nil => rfl
  | cons r rs ih => rw [flipRoots_cons, recipProd_cons, recipProd_cons, ih, pair_flip]

theorem fg_normalised (S : List K) (hS : ∀ s ∈ S, s ≠ 0) (norm : K) :
    C (norm / (Gpoly S).coeff 0) * (Gpoly S * Grev S) = C norm * recipProd S := by
  rw [Gpoly_mul_Grev S hS, ← Gpoly_coeff_zero, ← mul_assoc, ← C_mul,
    div_mul_cancel₀ _ ((Gpoly_coeff_zero_ne_zero S).mpr hS)]

end

/-! ### the executable: denotation of the factor list and of its product -/

/-- the polynomial in `z = w²` a real coefficient list denotes -/
noncomputable def toPolyR : List ℚ → ℂ[X]
  | [] => 0
  | c :: cs => C (c : ℂ) + X * toPolyR cs

theorem toPolyR_addL : ∀ a b : List ℚ, toPolyR (addL a b) = toPolyR a + toPolyR b
  | [], b => by simp [addL, toPolyR]
  | x :: xs, [] => by simp [addL, toPolyR]
  | x :: xs, y :: ys => by
    simp only [addL, toPolyR, toPolyR_addL xs ys, Rat.cast_add, C_add]; ring

theorem toPolyR_map_mul (x : ℚ) (b : List ℚ) :
    toPolyR (b.map (x * ·)) = C (x : ℂ) * toPolyR b := by
  induction b with
  | nil => simp [toPolyR]
  | cons y ys ih => simp only [List.map_cons, toPolyR, ih, Rat.cast_mul, C_mul]; ring

theorem toPolyR_convL (a b : List ℚ) : toPolyR (convL a b) = toPolyR a * toPolyR b := by
  induction a with
  | nil => simp [convL, toPolyR]
  | cons x xs ih =>
    simp only [convL, toPolyR_addL, toPolyR_map_mul, toPolyR, ih, Rat.cast_zero, C_0]; ring

theorem toPolyR_foldl (fs : List (List ℚ)) (a : List ℚ) :
    toPolyR (fs.foldl convL a) = toPolyR a * (fs.map toPolyR).prod := by
  induction fs generalizing a with
  | nil => simp
  | cons f fs ih => rw [List.foldl_cons, ih, toPolyR_convL, List.map_cons, List.prod_cons]; ring

theorem toPolyR_prodFactors (fs : List (List ℚ)) :
    toPolyR (prodFactors fs) = (fs.map toPolyR).prod := by
  unfold prodFactors
  rw [toPolyR_foldl]; simp [toPolyR]

theorem coeff_zero_toPolyR (l : List ℚ) : (toPolyR l).coeff 0 = ((l.headD 0 : ℚ) : ℂ) := by
  cases l <;> simp [toPolyR]

theorem toC_cqInv (r : CQ) : toC (cqInv r) = (toC r)⁻¹ := by
  apply Complex.ext <;> simp [cqInv, Complex.inv_re, Complex.inv_im, Complex.normSq_apply]

theorem toPolyR_cplxFactor (r : CQ) :
    toPolyR [r.1 * r.1 + r.2 * r.2, -2 * r.1, 1]
      = (X - C (toC r)) * (X - C ((starRingEnd ℂ) (toC r))) := by
  -- sum and product of `r` and its conjugate are the two rational coefficients
  have e1 : C (toC r) + C ((starRingEnd ℂ) (toC r)) = -C ((-2 * r.1 : ℚ) : ℂ) := by
    rw [← C_add, ← C_neg, Complex.add_conj, toC_re]
    congr 1
    push_cast
    ring
  have e2 : C (toC r) * C ((starRingEnd ℂ) (toC r)) = C ((r.1 * r.1 + r.2 * r.2 : ℚ) : ℂ) := by
    rw [← C_mul, Complex.mul_conj, Complex.normSq_apply, toC_re, toC_im]
    congr 1
    push_cast
    rfl
  simp only [toPolyR, Rat.cast_one, C_1, mul_zero, add_zero]
  linear_combination X * e1 - e2

theorem toPolyR_realFactor (r : ℚ) : toPolyR [-r, 1] = X - C ((r : ℚ) : ℂ) := by
  simp only [toPolyR, Rat.cast_neg, Rat.cast_one, C_neg, C_1, mul_zero, add_zero]; ring

theorem completeFG_eq (thr : ℚ) (roots : List CQ) (seed : List Bool) (norm : ℚ)
    (g : List ℚ) (ratio : ℚ) (h : completeFG thr roots seed norm = some (g, ratio)) :
    ∃ fs, factorsFG (classifyRoots thr roots).1 (classifyRoots thr roots).2 seed = some fs ∧
      g = prodFactors fs ∧ g.headD 0 ≠ 0 ∧ ratio = norm / g.headD 0 := by
  unfold completeFG at h
  cases hf : factorsFG (classifyRoots thr roots).1 (classifyRoots thr roots).2 seed with
  | none => simp [hf] at h
  | some fs =>
    simp only [hf, Option.bind_eq_bind, Option.bind_some] at h
    split_ifs at h with h0
    simp only [Option.pure_def, Option.some.injEq, Prod.mk.injEq] at h
    obtain ⟨rfl, rfl⟩ := h
    exact ⟨fs, rfl, rfl, h0, rfl⟩

/-- `hfs` (the factor list the run built denotes `∏ (z - s)` over `S`) is a hypothesis here;
    `completeFG_sound` is the statement without it.  With `hspec`, `ratio · g · grev = poly` says that
    `G = sqrt(ratio) · g` satisfies `F F~ + G G~ = 1`. -/
theorem completeFG_sound_partial (thr : ℚ) (roots : List CQ) (seed : List Bool) (norm : ℚ)
    (g : List ℚ) (ratio : ℚ) (h : completeFG thr roots seed norm = some (g, ratio))
    (S : List ℂ) (hS : ∀ s ∈ S, s ≠ 0)
    (hfs : ∀ fs, factorsFG (classifyRoots thr roots).1 (classifyRoots thr roots).2 seed = some fs →
      (fs.map toPolyR).prod = Gpoly S)
    (poly : ℂ[X]) (hspec : poly = C (norm : ℂ) * recipProd S) :
    toPolyR g = Gpoly S ∧ C (ratio : ℂ) * (toPolyR g * Grev S) = poly := by
  obtain ⟨fs, hf, rfl, h0, rfl⟩ := completeFG_eq _ _ _ _ _ _ h
  have hg : toPolyR (prodFactors fs) = Gpoly S := by rw [toPolyR_prodFactors, hfs fs hf]
  refine ⟨hg, ?_⟩
  rw [hspec, ← fg_normalised S hS, ← hg, coeff_zero_toPolyR, Rat.cast_div]

/-! ### `factorsFG` in closed form -/
section Explicit
open ComplexConjugate

theorem mapM_some {α β : Type} (f : α → Option β) (g : α → β) (l : List α)
    (h : ∀ a ∈ l, f a = some (g a)) : l.mapM f = some (l.map g) := by
  induction l with
  | nil => simp
  | cons a as ih =>
    rw [List.mapM_cons, h a (by simp), ih fun b hb => h b (by simp [hb])]; simp

theorem mapM_none {α β : Type} (f : α → Option β) {l : List α} {a : α} (ha : a ∈ l)
    (h : f a = none) : l.mapM f = none := by
  induction l with
  | nil => cases ha
  | cons b bs ih =>
    rw [List.mapM_cons]
    rcases List.mem_cons.mp ha with rfl | ha
    · rw [h]; rfl
    · rw [ih ha]; cases f b <;> rfl

theorem bitAt_of_lt {seed : List Bool} {i : ℕ} (h : i < seed.length) :
    bitAt seed i = some (seed.getD i false) := by
  rw [bitAt, List.getD_eq_getElem?_getD, List.getElem?_eq_getElem h, Option.getD_some]

theorem bitAt_of_le {seed : List Bool} {i : ℕ} (h : seed.length ≤ i) : bitAt seed i = none :=
  List.getElem?_eq_none h

/-- `root = 1 / root` where the seed bit `b` is set -/
noncomputable def flipC (b : Bool) (a : ℂ) : ℂ := if b then a⁻¹ else a

/-- `LPoly([|r|², -2 Re r, 1])` of `_fg_completion` for complex root `i` -/
def facI (im : List CQ) (seed : List Bool) (i : ℕ) : List ℚ :=
  let r := if seed.getD i false then cqInv (im.getD i (0, 0)) else im.getD i (0, 0)
  [r.1 * r.1 + r.2 * r.2, -2 * r.1, 1]

/-- `LPoly([-r, 1])` for real root `i` (seed bit `i + len(imag_roots)`) -/
def facR (im : List CQ) (re : List ℚ) (seed : List Bool) (i : ℕ) : List ℚ :=
  [-(if seed.getD (i + im.length) false then 1 / re.getD i 0 else re.getD i 0), 1]

/-- the roots of `g`: every complex root with its conjugate, then the real ones, each replaced by
    its reciprocal where the seed bit is set (`seed = []`: nothing flipped) -/
noncomputable def selRoots (im : List CQ) (re : List ℚ) (seed : List Bool) : List ℂ :=
  ((List.range im.length).flatMap fun i =>
      [flipC (seed.getD i false) (toC (im.getD i (0, 0))),
        conj (flipC (seed.getD i false) (toC (im.getD i (0, 0))))]) ++
    (List.range re.length).map fun i =>
      flipC (seed.getD (i + im.length) false) ((re.getD i 0 : ℚ) : ℂ)

theorem factorsFG_eq (im : List CQ) (re : List ℚ) (seed : List Bool)
    (hseed : im.length + re.length ≤ seed.length) :
    factorsFG im re seed
      = some ((List.range im.length).map (facI im seed) ++
          (List.range re.length).map (facR im re seed)) := by
  unfold factorsFG
  rw [mapM_some (g := facI im seed), Option.bind_eq_bind, Option.bind_some,
    mapM_some (g := facR im re seed)]
  · rfl
  · intro i hi
    rw [bitAt_of_lt (by have := List.mem_range.mp hi; omega)]; rfl
  · intro i hi
    rw [bitAt_of_lt (by have := List.mem_range.mp hi; omega)]; rfl

/-- a missing bit is the code's `CompletionError` for a short seed -/
theorem factorsFG_none (im : List CQ) (re : List ℚ) (seed : List Bool)
    (hseed : seed.length < im.length + re.length) : factorsFG im re seed = none := by
  unfold factorsFG
  -- the first missing bit is number `seed.length`: it is asked for in the first or the second block
  by_cases h1 : seed.length < im.length
  · rw [mapM_none _ (List.mem_range.mpr h1) (by rw [bitAt_of_le le_rfl]; rfl)]
    rfl
  · rw [mapM_none (l := List.range re.length) (a := seed.length - im.length) _
      (List.mem_range.mpr (by omega)) (by rw [bitAt_of_le (by omega)]; rfl)]
    exact Option.bind_fun_none _

theorem factorsFG_some_iff (im : List CQ) (re : List ℚ) (seed : List Bool) :
    (factorsFG im re seed).isSome ↔ im.length + re.length ≤ seed.length := by
  constructor
  · intro h
    by_contra hc
    rw [factorsFG_none im re seed (by omega)] at h
    cases h
  · intro h; rw [factorsFG_eq im re seed h]; rfl

theorem toC_flip (b : Bool) (r : CQ) :
    toC (if b then cqInv r else r) = flipC b (toC r) := by
  cases b <;> simp [flipC, toC_cqInv]

theorem conj_flipC (b : Bool) (a : ℂ) : conj (flipC b a) = flipC b (conj a) := by
  cases b <;> simp [flipC]

theorem toPolyR_facI (im : List CQ) (seed : List Bool) (i : ℕ) :
    toPolyR (facI im seed i)
      = (X - C (flipC (seed.getD i false) (toC (im.getD i (0, 0))))) *
        (X - C (conj (flipC (seed.getD i false) (toC (im.getD i (0, 0)))))) := by
  unfold facI
  rw [← toC_flip]
  exact toPolyR_cplxFactor _

theorem toPolyR_facR (im : List CQ) (re : List ℚ) (seed : List Bool) (i : ℕ) :
    toPolyR (facR im re seed i)
      = X - C (flipC (seed.getD (i + im.length) false) ((re.getD i 0 : ℚ) : ℂ)) := by
  unfold facR
  rw [toPolyR_realFactor]
  cases seed.getD (i + im.length) false
  · rfl
  · rw [if_pos rfl, one_div, Rat.cast_inv]; rfl

theorem factors_den (im : List CQ) (re : List ℚ) (seed : List Bool) :
    (((List.range im.length).map (facI im seed) ++
        (List.range re.length).map (facR im re seed)).map toPolyR).prod
      = Gpoly (selRoots im re seed) := by
  -- factor by factor: `toPolyR_facI` gives the two linear factors of a complex root,
  -- `toPolyR_facR` the one of a real root; the rest distributes `map` and `prod` over `++`, `flatMap`
  simp only [selRoots, Gpoly, List.map_append, List.prod_append, List.map_map, List.flatMap_def,
    List.map_flatten, List.prod_flatten, Function.comp_def, toPolyR_facI, toPolyR_facR,
    List.map_cons, List.map_nil, List.prod_cons, List.prod_nil, mul_one]

theorem pair_flipC (b : Bool) (a : ℂ) :
    (X - C (flipC b a)) * (X - C (flipC b a)⁻¹) = (X - C a) * (X - C a⁻¹) := pair_flip b a

theorem recipProd_selRoots (im : List CQ) (re : List ℚ) (seed : List Bool) :
    recipProd (selRoots im re seed) = recipProd (selRoots im re []) := by
  -- root by root `pair_flipC`; for the conjugate of a complex root after `conj_flipC`
  simp only [selRoots, recipProd, List.map_append, List.map_map, List.flatMap_def,
    List.map_flatten, Function.comp_def, List.map_cons, conj_flipC, pair_flipC]

theorem factorsFG_sound (im : List CQ) (re : List ℚ) (seed : List Bool) (norm : ℚ)
    (fs : List (List ℚ)) (hf : factorsFG im re seed = some fs)
    (h0 : (prodFactors fs).headD 0 ≠ 0) :
    im.length + re.length ≤ seed.length ∧
    toPolyR (prodFactors fs) = Gpoly (selRoots im re seed) ∧
    C ((norm / (prodFactors fs).headD 0 : ℚ) : ℂ) *
        (toPolyR (prodFactors fs) * Grev (selRoots im re seed))
      = C (norm : ℂ) * recipProd (selRoots im re []) := by
  have hseed := (factorsFG_some_iff im re seed).mp (by rw [hf]; rfl)
  have hg : toPolyR (prodFactors fs) = Gpoly (selRoots im re seed) := by
    rw [factorsFG_eq _ _ _ hseed, Option.some.injEq] at hf
    rw [toPolyR_prodFactors, ← hf, factors_den]
  have hc := coeff_zero_toPolyR (prodFactors fs)
  rw [hg] at hc
  have hS := (Gpoly_coeff_zero_ne_zero _).mp (by rw [hc]; exact_mod_cast h0)
  refine ⟨hseed, hg, ?_⟩
  rw [← recipProd_selRoots, ← fg_normalised _ hS, hg, hc, Rat.cast_div]

/-- The right-hand side is over the UNFLIPPED inside roots (`selRoots … []`): if the root finder
    met its specification `1 - F F~ = w^{-2 deg} · norm · ∏ (z - s)(z - 1/s)`, then
    `G = sqrt(ratio) · g` satisfies `F F~ + G G~ = 1` whatever the seed. -/
theorem completeFG_sound (thr : ℚ) (roots : List CQ) (seed : List Bool) (norm : ℚ)
    (g : List ℚ) (ratio : ℚ) (h : completeFG thr roots seed norm = some (g, ratio)) :
    (classifyRoots thr roots).1.length + (classifyRoots thr roots).2.length ≤ seed.length ∧
    toPolyR g = Gpoly (selRoots (classifyRoots thr roots).1 (classifyRoots thr roots).2 seed) ∧
    C (ratio : ℂ) * (toPolyR g *
        Grev (selRoots (classifyRoots thr roots).1 (classifyRoots thr roots).2 seed))
      = C (norm : ℂ) *
        recipProd (selRoots (classifyRoots thr roots).1 (classifyRoots thr roots).2 []) := by
  obtain ⟨fs, hf, rfl, h0, rfl⟩ := completeFG_eq _ _ _ _ _ _ h
  exact factorsFG_sound _ _ seed norm fs hf h0

end Explicit
end QSP
