/-
  Perturbation of `JacImpl.jacImplPt` in its inputs, in the Euclidean norm of 3-vectors (property
  C12, Jacobian clause).  The exact 3×3 factors (`Rz`, `B` at unit pairs, `D`) are contractions; a
  perturbed factor differs from the exact one by at most `ε` in operator norm; so the distance `e`
  between the perturbed and the exact chain obeys `e' + 1 ≤ (1+ε)(e + 1)`, i.e. `e + 1 ≤ (1+ε)^m`
  after `m` factors (`Close`).
  All three factors are one plane-rotation block `rot12` (`B` in exchanged coordinates), so there
  is one operator-norm bound, `en_rot12_le`.
  Every entry of the model passes `2n` factors and the derivative entries carry a factor 2: with
  all inputs within `δ` of unit pairs, `ε = 8δ + 4δ²` (`Good.dbl`) and the entries move by at most
  `2·((1+ε)^{2n} − 1)` (`jacImplPt_err`).
-/
import QSP.Proofs.JacImplCore
import Mathlib.Analysis.InnerProductSpace.PiL2
import Mathlib.Tactic.Linarith
import Mathlib.Tactic.Positivity
import Mathlib.Tactic.FinCases

namespace QSP
namespace JacImpl

/-! ## the Euclidean norm of 3-vectors -/

/-- `V3 ℝ` inside Mathlib's Euclidean space, from which `en` takes the triangle inequality -/
noncomputable def toE (v : V3 ℝ) : EuclideanSpace ℝ (Fin 3) := !₂[v.1, v.2.1, v.2.2]
noncomputable def en (v : V3 ℝ) : ℝ := ‖toE v‖
def ssq (v : V3 ℝ) : ℝ := v.1 ^ 2 + v.2.1 ^ 2 + v.2.2 ^ 2

theorem en_sq (v : V3 ℝ) : en v ^ 2 = ssq v := by
  unfold en ssq
  rw [EuclideanSpace.norm_sq_eq]
  simp [toE, Fin.sum_univ_three]

theorem en_nonneg (v : V3 ℝ) : 0 ≤ en v := norm_nonneg _

theorem en_add_le (u v : V3 ℝ) : en (u + v) ≤ en u + en v := by
  have : toE (u + v) = toE u + toE v := by ext i; fin_cases i <;> rfl
  unfold en; rw [this]; exact norm_add_le _ _

theorem en_le {u : V3 ℝ} {ρ : ℝ} (hρ : 0 ≤ ρ) (h : ssq u ≤ ρ ^ 2) : en u ≤ ρ :=
  (pow_le_pow_iff_left₀ (en_nonneg u) hρ two_ne_zero).mp (en_sq u ▸ h)

theorem en_le_mul {u v : V3 ℝ} {ρ : ℝ} (hρ : 0 ≤ ρ) (h : ssq u ≤ ρ ^ 2 * ssq v) :
    en u ≤ ρ * en v :=
  en_le (mul_nonneg hρ (en_nonneg v)) (by rwa [mul_pow, en_sq])

theorem abs_mid_le_en (v : V3 ℝ) : |v.2.1| ≤ en v :=
  abs_le_of_sq_le_sq (by rw [en_sq]; unfold ssq; linarith [sq_nonneg v.1, sq_nonneg v.2.2])
    (en_nonneg v)

/-! ## one factor, and the state after `m` factors -/

/-- `g0` is a contraction and `g` differs from it by at most `ε` in operator norm -/
def Step (ε : ℝ) (g g0 : V3 ℝ → V3 ℝ) : Prop :=
  (∀ v, en (g0 v) ≤ en v) ∧ ∀ u u0, en (g u - g0 u0) ≤ ε * en u + en (u - u0)

/-- the state after `m` factors: the exact vector `u0` is in the unit ball and the perturbed `u` is
    within `(1+ε)^m − 1` of it; kept in the form `e + 1 ≤ (1+ε)^m`, which one factor multiplies by
    `1 + ε` (`Close.step`) -/
def Close (ε : ℝ) (m : ℕ) (u u0 : V3 ℝ) : Prop := en u0 ≤ 1 ∧ en (u - u0) + 1 ≤ (1 + ε) ^ m

section close
variable {ε : ℝ} {m m' : ℕ} {u u0 : V3 ℝ}

theorem Close.step {g g0 : V3 ℝ → V3 ℝ} (hε : 0 ≤ ε) (hs : Step ε g g0) (hc : Close ε m u u0) :
    Close ε (m + 1) (g u) (g0 u0) := by
  refine ⟨(hs.1 u0).trans hc.1, ?_⟩
  have hu : en u ≤ en (u - u0) + 1 := by
    have := en_add_le (u - u0) u0
    rw [sub_add_cancel] at this
    linarith [hc.1]
  calc en (g u - g0 u0) + 1 ≤ ε * (en (u - u0) + 1) + en (u - u0) + 1 := by
        linarith [hs.2 u u0, mul_le_mul_of_nonneg_left hu hε]
    _ = (en (u - u0) + 1) * (1 + ε) := by ring
    _ ≤ (1 + ε) ^ m * (1 + ε) := mul_le_mul_of_nonneg_right hc.2 (by linarith)
    _ = (1 + ε) ^ (m + 1) := (pow_succ _ _).symm

theorem Close.mono (hε : 0 ≤ ε) (h : Close ε m u u0) (hm : m ≤ m') : Close ε m' u u0 :=
  ⟨h.1, h.2.trans (pow_le_pow_right₀ (le_add_of_nonneg_right hε) hm)⟩

theorem Close.mid (h : Close ε m u u0) : |u.2.1 - u0.2.1| ≤ (1 + ε) ^ m - 1 := by
  have := abs_mid_le_en (u - u0)
  simp only [Prod.fst_sub, Prod.snd_sub] at this
  linarith [h.2]

end close

theorem close_e1 (ε : ℝ) : Close ε 0 ((1 : ℝ), (0 : ℝ), (0 : ℝ)) (1, 0, 0) :=
  ⟨en_le zero_le_one (by simp [ssq]), by
    rw [sub_self, pow_zero]; exact add_le_of_nonpos_left (en_le le_rfl (by simp [ssq]))⟩

/-! ## the factors: one plane-rotation block, in coordinates (1,2) or (1,3) -/

def rot12 (a b t : ℝ) (v : V3 ℝ) : V3 ℝ := (a * v.1 - b * v.2.1, b * v.1 + a * v.2.1, t * v.2.2)

def sw (v : V3 ℝ) : V3 ℝ := (v.1, v.2.2, v.2.1)

/-- the block `[[a,−b],[b,a]] ⊕ [t]` has operator norm `max √(a²+b²) |t|`; used with `ρ = 1` for
    the exact factor and with `ρ = ε`, `t = 0` for the difference of two factors -/
theorem en_rot12_le {a b t ρ : ℝ} (hρ : 0 ≤ ρ) (h : a ^ 2 + b ^ 2 ≤ ρ ^ 2) (ht : t ^ 2 ≤ ρ ^ 2)
    (v : V3 ℝ) : en (rot12 a b t v) ≤ ρ * en v := by
  refine en_le_mul hρ ?_
  have e : ssq (rot12 a b t v) = (a ^ 2 + b ^ 2) * (v.1 ^ 2 + v.2.1 ^ 2) + t ^ 2 * v.2.2 ^ 2 := by
    simp only [ssq, rot12]; ring
  rw [e, ssq, mul_add (ρ ^ 2)]
  exact add_le_add (mul_le_mul_of_nonneg_right h (add_nonneg (sq_nonneg _) (sq_nonneg _)))
    (mul_le_mul_of_nonneg_right ht (sq_nonneg _))

theorem rot12_sub (a b a0 b0 t : ℝ) (u u0 : V3 ℝ) :
    rot12 a b t u - rot12 a0 b0 t u0 = rot12 (a - a0) (b - b0) 0 u + rot12 a0 b0 t (u - u0) := by
  simp only [rot12, Prod.mk_sub_mk, Prod.mk_add_mk, Prod.fst_sub, Prod.snd_sub, Prod.mk.injEq]
  exact ⟨by ring, by ring, by ring⟩

theorem step_rot12 {ε a b a0 b0 t : ℝ} (hε : 0 ≤ ε) (h0 : a0 ^ 2 + b0 ^ 2 ≤ 1) (ht : t ^ 2 ≤ 1)
    (hd : (a - a0) ^ 2 + (b - b0) ^ 2 ≤ ε ^ 2) : Step ε (rot12 a b t) (rot12 a0 b0 t) := by
  have hcon : ∀ v, en (rot12 a0 b0 t v) ≤ en v := fun v =>
    (en_rot12_le zero_le_one (by rwa [one_pow]) (by rwa [one_pow]) v).trans_eq (one_mul _)
  refine ⟨hcon, fun u u0 => ?_⟩
  rw [rot12_sub]
  exact (en_add_le _ _).trans
    (add_le_add (en_rot12_le hε hd (by rw [zero_pow two_ne_zero]; exact sq_nonneg ε) u) (hcon _))

theorem en_sw (v : V3 ℝ) : en (sw v) = en v := by
  have h : en (sw v) ^ 2 = en v ^ 2 := by simp only [en_sq, ssq, sw]; ring
  exact (sq_eq_sq₀ (en_nonneg _) (en_nonneg _)).mp h

theorem sw_sub (u u0 : V3 ℝ) : sw u - sw u0 = sw (u - u0) := rfl

theorem Step.conj_sw {ε : ℝ} {g g0 : V3 ℝ → V3 ℝ} (h : Step ε g g0) :
    Step ε (fun v => sw (g (sw v))) (fun v => sw (g0 (sw v))) :=
  ⟨fun v => by simpa only [en_sw] using h.1 (sw v),
   fun u u0 => by simpa only [sw_sub, en_sw] using h.2 (sw u) (sw u0)⟩

theorem matVec_rzMat (p : ℝ × ℝ) : matVec (rzMat p) = rot12 p.1 p.2 1 := by
  funext v
  simp only [matVec, rzMat, rot12, Prod.mk.injEq]
  exact ⟨by ring, by ring, by ring⟩

theorem matVec_dMat (p : ℝ × ℝ) : matVec (dMat p) = rot12 (-p.2) p.1 0 := by
  funext v
  simp only [matVec, dMat, rot12, Prod.mk.injEq]
  exact ⟨by ring, by ring, by ring⟩

theorem matVec_bMat (c2 s2 : ℝ) : matVec (bMat c2 s2) = fun v => sw (rot12 c2 s2 1 (sw v)) := by
  funext v
  simp only [matVec, bMat, rot12, sw, Prod.mk.injEq]
  exact ⟨by ring, by ring, by ring⟩

/-! ## input pairs within `δ` of the unit circle -/

theorem nonneg_of_two_mul_le {δ ε : ℝ} (hδ : 0 ≤ δ) (hε : 2 * δ ≤ ε) : 0 ≤ ε :=
  (mul_nonneg zero_le_two hδ).trans hε

/-- `q = (perturbed pair, exact pair)`: the exact one on the unit circle, the perturbed one within
    `δ` componentwise -/
def Good (δ : ℝ) (q : (ℝ × ℝ) × (ℝ × ℝ)) : Prop :=
  q.2.1 ^ 2 + q.2.2 ^ 2 = 1 ∧ |q.1.1 - q.2.1| ≤ δ ∧ |q.1.2 - q.2.2| ≤ δ

theorem Good.dist_sq {δ ε : ℝ} {q : (ℝ × ℝ) × (ℝ × ℝ)} (h : Good δ q) (hδ : 0 ≤ δ)
    (hε : 2 * δ ≤ ε) : (q.1.1 - q.2.1) ^ 2 + (q.1.2 - q.2.2) ^ 2 ≤ ε ^ 2 :=
  calc _ ≤ δ ^ 2 + δ ^ 2 := add_le_add (sq_le_sq' (neg_le_of_abs_le h.2.1) (le_of_abs_le h.2.1))
        (sq_le_sq' (neg_le_of_abs_le h.2.2) (le_of_abs_le h.2.2))
    _ ≤ (2 * δ) ^ 2 := by rw [mul_pow]; linarith [sq_nonneg δ]
    _ ≤ ε ^ 2 := pow_le_pow_left₀ (by positivity) hε 2

theorem good_default (δ : ℝ) (hδ : 0 ≤ δ) : Good δ (((1 : ℝ), (0 : ℝ)), ((1 : ℝ), (0 : ℝ))) := by
  refine ⟨by norm_num, ?_, ?_⟩ <;> simpa using hδ

section good
variable {δ ε : ℝ} {q : (ℝ × ℝ) × (ℝ × ℝ)} (h : Good δ q) (hδ : 0 ≤ δ) (hε : 2 * δ ≤ ε)
include h hδ hε

theorem Good.step_rz : Step ε (matVec (rzMat q.1)) (matVec (rzMat q.2)) := by
  rw [matVec_rzMat, matVec_rzMat]
  exact step_rot12 (nonneg_of_two_mul_le hδ hε) h.1.le (by norm_num) (h.dist_sq hδ hε)

theorem Good.step_d : Step ε (matVec (dMat q.1)) (matVec (dMat q.2)) := by
  rw [matVec_dMat, matVec_dMat]
  refine step_rot12 (nonneg_of_two_mul_le hδ hε) ?_ (by norm_num) ?_
  · rw [neg_sq, add_comm]; exact h.1.le
  · rw [neg_sub_neg, ← neg_sub, neg_sq, add_comm]; exact h.dist_sq hδ hε

theorem Good.step_b : Step ε (matVec (bMat q.1.1 q.1.2)) (matVec (bMat q.2.1 q.2.2)) := by
  rw [matVec_bMat, matVec_bMat]
  exact (step_rot12 (nonneg_of_two_mul_le hδ hε) h.1.le (by norm_num) (h.dist_sq hδ hε)).conj_sw

end good

theorem abs_mul_sub_mul_le {δ a b a0 b0 : ℝ} (ha0 : |a0| ≤ 1) (hb0 : |b0| ≤ 1)
    (ha : |a - a0| ≤ δ) (hb : |b - b0| ≤ δ) : |a * b - a0 * b0| ≤ δ * (2 + δ) := by
  have hδ : 0 ≤ δ := (abs_nonneg _).trans ha
  have hb' : |b| ≤ 1 + δ := by
    rw [← add_sub_cancel b0 b]
    exact (abs_add_le _ _).trans (add_le_add hb0 hb)
  calc |a * b - a0 * b0| = |(a - a0) * b + a0 * (b - b0)| := congrArg _ (by ring)
    _ ≤ |a - a0| * |b| + |a0| * |b - b0| := by
        rw [← abs_mul, ← abs_mul]; exact abs_add_le _ _
    _ ≤ δ * (1 + δ) + 1 * δ :=
        add_le_add (mul_le_mul ha hb' (abs_nonneg _) hδ)
          (mul_le_mul ha0 hb (abs_nonneg _) zero_le_one)
    _ = δ * (2 + δ) := by ring

/-- the pair of the doubled angle `(c² − s², 2cs)` is again on the unit circle and moves by at
    most `2δ(2+δ)`: this is where `ε = 8δ + 4δ²` comes from -/
theorem Good.dbl {δ : ℝ} {q : (ℝ × ℝ) × (ℝ × ℝ)} (h : Good δ q) :
    Good (2 * (δ * (2 + δ)))
      ((q.1.1 * q.1.1 - q.1.2 * q.1.2, two * q.1.1 * q.1.2),
       (q.2.1 * q.2.1 - q.2.2 * q.2.2, two * q.2.1 * q.2.2)) := by
  obtain ⟨h0, hc, hs⟩ := h
  have c0 : |q.2.1| ≤ 1 := (sq_le_one_iff_abs_le_one _).mp (by linarith [sq_nonneg q.2.2])
  have s0 : |q.2.2| ≤ 1 := (sq_le_one_iff_abs_le_one _).mp (by linarith [sq_nonneg q.2.1])
  refine ⟨?_, ?_, ?_⟩
  · simp only [two]; linear_combination (q.2.1 ^ 2 + q.2.2 ^ 2 + 1) * h0
  · have := abs_sub (q.1.1 * q.1.1 - q.2.1 * q.2.1) (q.1.2 * q.1.2 - q.2.2 * q.2.2)
    rw [sub_sub_sub_comm]
    linarith [abs_mul_sub_mul_le c0 c0 hc hc, abs_mul_sub_mul_le s0 s0 hs hs]
  · simp only [two_eq, mul_assoc]
    rw [← mul_sub, abs_mul, abs_two]
    linarith [abs_mul_sub_mul_le c0 s0 hc hs]

/-! ## chains, and the entries of `jacImplCore` -/

section chain
-- `P` holds the perturbed pairs, `P0` the exact ones, related position by position
variable {δ ε : ℝ} (hδ : 0 ≤ δ) (hε : 2 * δ ≤ ε) {B B0 : Mat3 ℝ}
  (hB : Step ε (matVec B) (matVec B0))
  {P P0 : List (ℝ × ℝ)} (hq : List.Forall₂ (fun p p0 => Good δ (p, p0)) P P0)
include hδ hε hB hq

theorem vecU_close {m : ℕ} {v v0 : V3 ℝ} (hc : Close ε m v v0) :
    Close ε (m + 2 * P.length) (vecU B v P) (vecU B0 v0 P0) := by
  have hε0 := nonneg_of_two_mul_le hδ hε
  induction hq generalizing m v v0 with
  | nil => exact hc
  | cons hp _ ih =>
    exact (ih ((hc.step hε0 hB).step hε0 (hp.step_rz hδ hε))).mono hε0
      (by rw [List.length_cons]; omega)

/-- `vecS` is `vecU` with the first `Rz` moved in front and the last `B` behind -/
theorem vecS_close {m : ℕ} {v v0 : V3 ℝ} (hc : Close ε m v v0) :
    Close ε (m + 2 * P.length) (vecS B v P) (vecS B0 v0 P0) := by
  have hε0 := nonneg_of_two_mul_le hδ hε
  cases hq with
  | nil => exact hc
  | cons hp hq =>
    simp only [vecS, ← matVec_vecU]
    exact ((vecU_close hδ hε hB hq (hc.step hε0 (hp.step_rz hδ hε))).step hε0 hB).mono hε0
      (by rw [List.length_cons]; omega)

omit hε hB in
theorem good_getD (k : ℕ) : Good δ (P.getD k (1, 0), P0.getD k (1, 0)) := by
  induction hq generalizing k with
  | nil => exact good_default δ hδ
  | cons hp _ ih =>
    cases k with
    | zero => exact hp
    | succ k => exact ih k

/-- Entry `k < n` passes `2k` factors, `D`, and `2(n-k-1)` factors; entry `n` passes `2(n-1)`
    factors and one `Rz`; with the start column (one step from `e₁`) that makes `2n` steps either
    way. -/
theorem jacImplCore_close {r r0 : V3 ℝ} (hr : Close ε 1 r r0) (hne : P ≠ []) (k : ℕ)
    (hk : k ≤ P.length) :
    |(jacImplCore B r P).getD k 0 - (jacImplCore B0 r0 P0).getD k 0|
      ≤ 2 * ((1 + ε) ^ (2 * P.length) - 1) := by
  have hε0 := nonneg_of_two_mul_le hδ hε
  have hlen := hq.length_eq
  have hpos : 0 < P.length := List.length_pos_iff.mpr hne
  have hS := fun j => vecS_close hδ hε hB (List.forall₂_take j hq) hr
  rcases Nat.lt_or_eq_of_le hk with hlt | rfl
  · rw [jacImplCore_getD_lt' _ _ _ k hlt, jacImplCore_getD_lt' _ _ _ k (hlen ▸ hlt), ← mul_sub,
      abs_mul, two_eq, abs_two]
    have c := vecU_close hδ hε hB (List.forall₂_drop (k + 1) hq)
      ((hS k).step hε0 ((good_getD hδ hq k).step_d hδ hε))
    rw [List.length_take_of_le hlt.le, List.length_drop] at c
    exact mul_le_mul_of_nonneg_left (c.mono hε0 (m' := 2 * P.length) (by omega)).mid zero_le_two
  · have e0 := jacImplCore_getD_last' B0 r0 P0 (List.ne_nil_of_length_pos (hlen ▸ hpos))
    rw [← hlen] at e0
    rw [jacImplCore_getD_last' B r P hne, e0]
    have c := (hS (P.length - 1)).step hε0 ((good_getD hδ hq (P.length - 1)).step_rz hδ hε)
    rw [List.length_take_of_le (Nat.sub_le _ _)] at c
    have h1 : 1 ≤ (1 + ε) ^ (2 * P.length) := one_le_pow₀ (le_add_of_nonneg_right hε0)
    linarith only [h1, (c.mono hε0 (m' := 2 * P.length) (by omega)).mid]

end chain

/-! ## the model: `B` and `R[:,0]` from the pair `(ct, st)` -/

def epsR (δ : ℝ) : ℝ := 8 * δ + 4 * δ * δ

theorem epsR_ge (δ : ℝ) (hδ : 0 ≤ δ) : 2 * δ ≤ epsR δ := by
  unfold epsR; linarith [mul_nonneg hδ hδ]

section signal
variable {δ ct st ct0 st0 : ℝ} (hδ : 0 ≤ δ) (hG : Good δ ((ct, st), (ct0, st0)))
include hδ hG

theorem step_B : Step (epsR δ) (matVec (bMat (ct * ct - st * st) (two * ct * st)))
    (matVec (bMat (ct0 * ct0 - st0 * st0) (two * ct0 * st0))) :=
  hG.dbl.step_b (by positivity) (le_of_eq (by unfold epsR; ring))

/-- `R[:,0]` is `e₁` or `B·e₁` with `B` at the pair `(ct, st)` itself -/
theorem close_r0 (par : ℕ) :
    Close (epsR δ) 1 (if par = 0 then ((1 : ℝ), (0 : ℝ), (0 : ℝ)) else (ct, 0, st))
      (if par = 0 then ((1 : ℝ), (0 : ℝ), (0 : ℝ)) else (ct0, 0, st0)) := by
  have hε := epsR_ge δ hδ
  split_ifs
  · exact (close_e1 _).mono (nonneg_of_two_mul_le hδ hε) zero_le_one
  · simpa [matVec, bMat] using
      (close_e1 _).step (nonneg_of_two_mul_le hδ hε) (hG.step_b hδ hε)

end signal

noncomputable def errR (n : ℕ) (δ : ℝ) : ℝ := 2 * ((1 + epsR δ) ^ (2 * n) - 1)

theorem jacImplPt_err (par : ℕ) (δ ct st ct0 st0 : ℝ) (hδ : 0 ≤ δ)
    (h0 : ct0 ^ 2 + st0 ^ 2 = 1) (hc : |ct - ct0| ≤ δ) (hs : |st - st0| ≤ δ)
    (P P0 : List (ℝ × ℝ)) (hlen : P.length = P0.length)
    (hq : ∀ q ∈ P.zip P0, Good δ q) (k : ℕ) (hk : k ≤ P.length) :
    |(jacImplPt par P ct st).getD k 0 - (jacImplPt par P0 ct0 st0).getD k 0|
      ≤ errR P.length δ := by
  have hG : Good δ ((ct, st), (ct0, st0)) := ⟨h0, hc, hs⟩
  unfold jacImplPt
  rw [← hlen]
  by_cases hn : P.length = 0
  · simp [hn, errR]
  rw [if_neg hn, if_neg hn]
  exact jacImplCore_close hδ (epsR_ge δ hδ) (step_B hδ hG)
    (List.forall₂_iff_zip.mpr ⟨hlen, fun h => hq _ h⟩) (close_r0 hδ hG par)
    (List.ne_nil_of_length_pos (by omega)) k hk

end JacImpl
end QSP
