/-
  Coefficient lists as functions: `polyAt t x = Σ_k t_k x^k`, `chebAt c x = Σ_k c_k T_k(x)` and the
  cosine sums are all weighted sums `wsum` against a basis, so the list operations of the model
  (`addL`, `subL`, scaling) are proved once, for `wsum`.  On the circle a polynomial in `cos θ` is the
  value of its Laurent form (`laurentParts`), and a symmetric Laurent vector is a cosine sum
  (`evalQ_symm_denL`): this gives the Laurent forms `chebSeriesLP`, `chebToLP` of a Chebyshev series,
  the sup certificate `chebSupLe` and the exact evaluator `chebEval`.  The symmetrisation `symHalf`
  of a model polynomial is its real part on the circle.
-/
import QSP.Model.Validators
import QSP.Proofs.AnglesEval
import QSP.Proofs.Cheb
import QSP.Proofs.Generators
import Mathlib.Analysis.SpecialFunctions.Trigonometric.Chebyshev.RootsExtrema
open LaurentPolynomial Complex
namespace QSP

/-! ## weighted sums -/

noncomputable def polyAt (t : List ℚ) (x : ℝ) : ℝ :=
  (t.map (fun q : ℚ => (q : ℝ))).foldr (fun c acc => c + x * acc) 0

@[simp] theorem polyAt_nil (x : ℝ) : polyAt [] x = 0 := rfl
@[simp] theorem polyAt_cons (c : ℚ) (cs : List ℚ) (x : ℝ) :
    polyAt (c :: cs) x = (c : ℝ) + x * polyAt cs x := rfl

/-- `Σ_j c_j g(k + j)` -/
noncomputable def wsum (g : ℕ → ℝ) : List ℚ → ℕ → ℝ
  | [], _ => 0
  | a :: as, k => (a : ℝ) * g k + wsum g as (k + 1)

theorem wsum_addL (g : ℕ → ℝ) (a b : List ℚ) (k : ℕ) :
    wsum g (addL a b) k = wsum g a k + wsum g b k := by
  induction a generalizing b k with
  | nil => simp [addL, wsum]
  | cons c cs ih =>
    cases b with
    | nil => simp [addL, wsum]
    | cons d ds => simp only [addL, wsum, ih]; push_cast; ring

theorem wsum_map (g : ℕ → ℝ) (f : ℚ → ℚ) (s : ℝ) (hf : ∀ c : ℚ, ((f c : ℚ) : ℝ) = s * (c : ℝ))
    (a : List ℚ) (k : ℕ) : wsum g (a.map f) k = s * wsum g a k := by
  induction a generalizing k with
  | nil => simp [wsum]
  | cons c cs ih => rw [List.map_cons, wsum, wsum, ih, hf]; ring

theorem wsum_map_neg (g : ℕ → ℝ) (a : List ℚ) (k : ℕ) :
    wsum g (a.map (- ·)) k = - wsum g a k := by
  rw [wsum_map g _ (-1) (fun c => by push_cast; ring), neg_one_mul]

theorem wsum_subL (g : ℕ → ℝ) (a b : List ℚ) (k : ℕ) :
    wsum g (subL a b) k = wsum g a k - wsum g b k := by
  rw [subL, wsum_addL, wsum_map_neg]; ring

theorem wsum_map_mul (g : ℕ → ℝ) (s : ℚ) (a : List ℚ) (k : ℕ) :
    wsum g (a.map (s * ·)) k = (s : ℝ) * wsum g a k :=
  wsum_map g _ s (fun c => Rat.cast_mul s c) a k

theorem wsum_map_div (g : ℕ → ℝ) (s : ℚ) (a : List ℚ) (k : ℕ) :
    wsum g (a.map (· / s)) k = wsum g a k / (s : ℝ) := by
  rw [wsum_map g _ (s : ℝ)⁻¹ (fun c => by push_cast; rw [div_eq_inv_mul]), inv_mul_eq_div]

theorem wsum_eq_sum (g : ℕ → ℝ) (c : List ℚ) (k : ℕ) :
    wsum g c k = ∑ i ∈ Finset.range c.length, ((c.getD i 0 : ℚ) : ℝ) * g (k + i) := by
  induction c generalizing k with
  | nil => rfl
  | cons a as ih =>
    rw [wsum, ih, sum_range_length_cons 0 a as (fun i x => ((x : ℚ) : ℝ) * g (k + i))]
    simp only [Nat.add_zero, Nat.add_right_comm k 1]
    rfl

theorem abs_wsum_le (g : ℕ → ℝ) (hg : ∀ j, |g j| ≤ 1) (c : List ℚ) (k : ℕ) :
    |wsum g c k| ≤ ((l1 c : ℚ) : ℝ) := by
  induction c generalizing k with
  | nil => simp [wsum, l1]
  | cons a as ih =>
    rw [wsum, l1_cons, qabs_eq]
    push_cast
    refine (abs_add_le _ _).trans (add_le_add ?_ (ih _))
    rw [abs_mul]
    exact mul_le_of_le_one_right (abs_nonneg _) (hg k)

theorem wsum_pow (t : List ℚ) (x : ℝ) (k : ℕ) :
    wsum (fun j => x ^ j) t k = x ^ k * polyAt t x := by
  induction t generalizing k with
  | nil => simp [wsum]
  | cons c cs ih => rw [wsum, ih, polyAt_cons, pow_succ]; ring

theorem polyAt_wsum (t : List ℚ) (x : ℝ) : polyAt t x = wsum (fun j => x ^ j) t 0 := by
  rw [wsum_pow, pow_zero, one_mul]

theorem polyAt_addL (a b : List ℚ) (x : ℝ) : polyAt (addL a b) x = polyAt a x + polyAt b x := by
  simp only [polyAt_wsum, wsum_addL]

theorem polyAt_map_mul (c : ℚ) (l : List ℚ) (x : ℝ) :
    polyAt (l.map (c * ·)) x = (c : ℝ) * polyAt l x := by
  simp only [polyAt_wsum, wsum_map_mul]

theorem polyAt_map_div (l : List ℚ) (c : ℚ) (y : ℝ) :
    polyAt (l.map (· / c)) y = polyAt l y / (c : ℝ) := by
  simp only [polyAt_wsum, wsum_map_div]

/-! ### the target of C01 -/

theorem polyAt_zeros_append (n : ℕ) (l : List ℚ) (x : ℝ) :
    polyAt (zeros n ++ l) x = x ^ n * polyAt l x := by
  induction n with
  | zero => simp [zeros]
  | succ n ih =>
    show polyAt (0 :: (zeros n ++ l)) x = _
    rw [polyAt_cons, ih, Rat.cast_zero, zero_add, pow_succ', mul_assoc]

theorem polyAt_targetC01 (p : List ℚ) (eps suc : ℚ) (x : ℝ) :
    polyAt (targetC01 p eps suc) x =
      (suc : ℝ) * (polyAt p x + (eps : ℝ) / 2 * x ^ (p.length - 1)) := by
  rw [targetC01, polyAt_map_mul, polyAt_addL, polyAt_zeros_append]
  simp only [polyAt_cons, polyAt_nil]
  push_cast
  ring

/-! ### `polyAt` and the operations on coefficient lists -/

theorem eval₂_toPoly (t : List ℚ) (x : ℝ) :
    Polynomial.eval₂ (algebraMap ℚ ℝ) x (toPoly t) = polyAt t x := by
  induction t with
  | nil => simp
  | cons c cs ih =>
    rw [toPoly_cons, Polynomial.eval₂_add, Polynomial.eval₂_mul, Polynomial.eval₂_C,
      Polynomial.eval₂_X, ih, polyAt_cons]
    rfl

theorem polyAt_chebBasis (n : ℕ) (y : ℝ) :
    polyAt (chebBasis false n : List ℚ) y = (Polynomial.Chebyshev.T ℝ (n : ℤ)).eval y := by
  rw [← eval₂_toPoly, chebBasis_T, ← Polynomial.eval_map, Polynomial.Chebyshev.map_T]

theorem polyAt_convL (a b : List ℚ) (s : ℝ) :
    polyAt (convL a b) s = polyAt a s * polyAt b s := by
  rw [← eval₂_toPoly, toPoly_convL, Polynomial.eval₂_mul, eval₂_toPoly, eval₂_toPoly]

theorem polyAt_evens_odds (l : List ℚ) (s : ℝ) :
    polyAt l s = polyAt (evens l) (s ^ 2) + s * polyAt (odds l) (s ^ 2) := by
  induction l with
  | nil => simp [evens, odds]
  | cons x xs ih =>
    rw [evens_cons, odds_cons, polyAt_cons, polyAt_cons, ih]
    ring

theorem polyAt_eq_zero (l : List ℚ) (h : ∀ j, l.getD j 0 = 0) (y : ℝ) : polyAt l y = 0 := by
  induction l with
  | nil => simp
  | cons c cs ih =>
    rw [polyAt_cons, ih fun j => h (j + 1), show c = 0 from h 0, Rat.cast_zero, mul_zero, add_zero]

theorem polyAt_evens_of_oppZero (l : List ℚ) (h : OppZero 0 l) (s : ℝ) :
    polyAt (evens l) (s ^ 2) = polyAt l s := by
  rw [polyAt_evens_odds l s, polyAt_eq_zero (odds l), mul_zero, add_zero]
  intro j
  rw [(evens_odds_getD l 0 j).2]
  exact h _ (by omega)

/-! ## polynomials in `cos θ` on the circle -/

theorem circ_zpow_add (φ : ℝ) (d : ℤ) :
    exp ((φ : ℂ) * I) ^ (-d) + exp ((φ : ℂ) * I) ^ d = 2 * Complex.cos ((d : ℂ) * φ) := by
  rw [← Complex.exp_int_mul, ← Complex.exp_int_mul, add_comm, Complex.two_cos]
  push_cast
  ring_nf

theorem evalQ_cosW (θ : ℝ) : evalQ θ (cosW : ℚ[T;T⁻¹]) = ((Real.cos θ : ℝ) : ℂ) := by
  rw [cosW, RingHom.map_mul, RingHom.map_add, evalQ_C, evalQ_T, evalQ_T, add_comm, circ_zpow_add,
    Int.cast_one, one_mul, Complex.ofReal_cos]
  push_cast
  ring

theorem evalQ_aeval (θ : ℝ) (P : Polynomial ℚ) :
    evalQ θ (Polynomial.aeval (cosW : ℚ[T;T⁻¹]) P) =
      ((Polynomial.eval₂ (algebraMap ℚ ℝ) (Real.cos θ) P : ℝ) : ℂ) := by
  -- both sides are `eval₂` at `cos θ` along a ring homomorphism `ℚ →+* ℂ`, and there is only one
  rw [Polynomial.aeval_def, Polynomial.hom_eval₂, evalQ_cosW]
  refine Eq.trans ?_ (Polynomial.hom_eval₂ P (algebraMap ℚ ℝ) Complex.ofRealHom (Real.cos θ)).symm
  rw [Subsingleton.elim ((evalQ θ).comp (algebraMap ℚ ℚ[T;T⁻¹]))
    (Complex.ofRealHom.comp (algebraMap ℚ ℝ))]
  rfl

theorem evQ_laurentForm {t : List ℚ} {p : LP ℚ} (h : polyToLaurentForm t = .ok p) (θ : ℝ) :
    evQ p θ = ((polyAt t (Real.cos θ) : ℝ) : ℂ) := by
  rw [evQ_eq, (den_polyToLaurentForm t p h).1, evalQ_aeval, eval₂_toPoly]

/-! ### parity splitting -/

theorem polyAt_parityPart (t : List ℚ) (i : ℕ) (x : ℝ) :
    polyAt t x = polyAt (parityPart 0 t i) x + polyAt (parityPart 1 t i) x := by
  induction t generalizing i with
  | nil => simp [parityPart]
  | cons c cs ih =>
    simp only [parityPart, polyAt_cons]
    rw [ih (i + 1)]
    -- `c` goes to the part of the parity of `i`, `0` to the other
    rcases Nat.mod_two_eq_zero_or_one i with h | h
    · simp only [h, if_true, zero_ne_one, if_false, Rat.cast_zero]
      ring
    · simp only [h, if_true, one_ne_zero, if_false, Rat.cast_zero]
      ring

/-- the parity parts have definite parity, so `polyToLaurentForm` returns on them -/
theorem polyToLaurentForm_parityPart (par : ℕ) (t : List ℚ) :
    ∃ p, polyToLaurentForm (parityPart par t 0) = .ok p :=
  polyToLaurentForm_returns _ par fun j hj => by
    rw [parityPart_getD_eq, Nat.zero_add] at hj
    exact of_not_not fun h => hj (if_neg h)

theorem laurentParts_ok (t : List ℚ) : ∃ e o, laurentParts t = .ok (e, o) ∧
    polyToLaurentForm (parityPart 0 t 0) = .ok e ∧
    polyToLaurentForm (parityPart 1 t 0) = .ok o := by
  obtain ⟨e, he⟩ := polyToLaurentForm_parityPart 0 t
  obtain ⟨o, ho⟩ := polyToLaurentForm_parityPart 1 t
  refine ⟨e, o, ?_, he, ho⟩
  simp only [laurentParts, he, ho, ok_bind]

theorem laurentParts_spec {t : List ℚ} {e o : LP ℚ} (h : laurentParts t = .ok (e, o)) :
    e.WF ∧ o.WF ∧ ∀ θ : ℝ, ((polyAt t (Real.cos θ) : ℝ) : ℂ) = evQ e θ + evQ o θ := by
  obtain ⟨e', o', h', he, ho⟩ := laurentParts_ok t
  rw [h'] at h
  cases h
  refine ⟨(den_polyToLaurentForm _ _ he).2, (den_polyToLaurentForm _ _ ho).2, fun θ => ?_⟩
  rw [evQ_laurentForm he, evQ_laurentForm ho, ← Complex.ofReal_add, ← polyAt_parityPart t 0]

/-- in the shape of the selection by parity in `validReal` / `validCplx` -/
theorem laurentParts_select {t : List ℚ} {e o : LP ℚ} (h : laurentParts t = .ok (e, o))
    (b : Prop) [Decidable b] :
    (if b then e else o).WF ∧ (if b then o else e).WF ∧ ∀ θ : ℝ,
      ((polyAt t (Real.cos θ) : ℝ) : ℂ) = evQ (if b then e else o) θ + evQ (if b then o else e) θ := by
  obtain ⟨he, ho, hs⟩ := laurentParts_spec h
  split
  · exact ⟨he, ho, hs⟩
  · exact ⟨ho, he, fun θ => (hs θ).trans (add_comm _ _)⟩

/-! ### symmetrisation -/

theorem evQ_neg_conj (p : LP ℚ) (θ : ℝ) : evQ p (-θ) = (starRingEnd ℂ) (evQ p θ) := by
  rw [evQ_eq_evalC, evQ_eq_evalC, evalC_neg_eq_conj]

theorem evQ_sym_real (p : LP ℚ) (θ : ℝ) :
    (evQ p θ + evQ p (-θ)) / 2 = (((evQ p θ).re : ℝ) : ℂ) := by
  rw [evQ_neg_conj, Complex.add_conj]
  push_cast
  ring

theorem symHalf_spec (p s : LP ℚ) (hp : p.WF) (h : symHalf p = .ok s) (θ : ℝ) :
    evQ s θ = (evQ p θ + evQ p (-θ)) / 2 ∧ s.WF := by
  unfold symHalf at h
  obtain ⟨a, ha, h⟩ := bind_ok h
  cases h
  have hi := den_inv p hp
  obtain ⟨-, a2⟩ := add_ok hp hi.2 ha
  refine ⟨?_, (den_smul _ a a2).2⟩
  rw [evQ_smul _ _ a2, evQ_add hp hi.2 ha, evQ_inv p hp]
  push_cast
  ring

theorem symHalf_NZ (p s : LP ℚ) (hp : p.NZ) (h : symHalf p = .ok s) :
    s.NZ ∧ s.parity = p.parity := by
  unfold symHalf at h
  obtain ⟨a, ha, h⟩ := bind_ok h
  cases h
  obtain ⟨hin, hip⟩ := inv_NZ hp
  obtain ⟨a', ha', aNZ, apar⟩ := add_NZ hp hin hip.symm
  cases ha.symm.trans ha'
  have hs := aNZ.on.smul (1 / 2)
  exact ⟨hs.NZ, hs.parity.trans apar⟩

/-! ## Chebyshev series -/

noncomputable def chebAt (c : List ℚ) (x : ℝ) : ℝ :=
  wsum (fun k => (Polynomial.Chebyshev.T ℝ (k : ℤ)).eval x) c 0

theorem chebAt_eq_sum (c : List ℚ) (x : ℝ) :
    chebAt c x = ∑ k ∈ Finset.range c.length,
      ((c.getD k 0 : ℚ) : ℝ) * (Polynomial.Chebyshev.T ℝ (k : ℤ)).eval x := by
  rw [chebAt, wsum_eq_sum]
  simp only [zero_add]

@[simp] theorem chebAt_nil (x : ℝ) : chebAt [] x = 0 := rfl

theorem chebAt_singleton (c : ℚ) (x : ℝ) : chebAt [c] x = (c : ℝ) := by
  simp [chebAt, wsum]

theorem chebAt_addL (a b : List ℚ) (x : ℝ) :
    chebAt (addL a b) x = chebAt a x + chebAt b x := wsum_addL _ a b 0

theorem chebAt_subL (a b : List ℚ) (x : ℝ) :
    chebAt (subL a b) x = chebAt a x - chebAt b x := wsum_subL _ a b 0

theorem chebAt_map_div (s : ℚ) (c : List ℚ) (x : ℝ) :
    chebAt (c.map (· / s)) x = chebAt c x / (s : ℝ) := wsum_map_div _ s c 0

theorem abs_chebAt_le_l1 (c : List ℚ) (x : ℝ) (hx : x ∈ Set.Icc (-1 : ℝ) 1) :
    |chebAt c x| ≤ ((l1 c : ℚ) : ℝ) :=
  abs_wsum_le _ (fun _ => Polynomial.Chebyshev.abs_eval_T_real_le_one _ (abs_le.mpr hx)) c 0

/-- `f(1/w) + f(w)` on the circle for `f = Σ_j (c_j/2) w^(d+2j)` is `Σ_j c_j cos((d+2j) φ)`; stated
    against any basis `g` with these values from `k` on, which is what the induction on `c` needs and
    what `T_j(cos θ)` and the cosines of `chebToLP_spec` instantiate -/
theorem evalQ_symm_denL (c : List ℚ) (d : ℤ) (φ : ℝ) (g : ℕ → ℝ) (k : ℕ)
    (hg : ∀ j : ℕ, g (k + j) = Real.cos (((d : ℝ) + 2 * (j : ℝ)) * φ)) :
    evalQ φ (invert (denL (c.map (· / 2)) d) + denL (c.map (· / 2)) d) =
      ((wsum g c k : ℝ) : ℂ) := by
  rw [RingHom.map_add, evalQ_invert, evalQ_denL, evalQ_denL, exp_neg_theta]
  induction c generalizing d k with
  | nil => simp [wsum, FW]
  | cons a as ih =>
    have h0 := hg 0
    rw [Nat.add_zero, Nat.cast_zero, mul_zero, add_zero] at h0
    have ht := ih (d + 2) (k + 1) fun j => by
      rw [Nat.add_right_comm, Nat.add_assoc, hg (j + 1)]
      push_cast
      ring_nf
    rw [List.map_cons, List.map_cons, FW, FW, wsum, h0, inv_zpow']
    push_cast
    linear_combination ht + ((a : ℂ) / 2) * circ_zpow_add φ d

theorem denL_chebSeriesLP (c : List ℚ) :
    denL (chebSeriesLP c).1 (chebSeriesLP c).2 =
      invert (denL (c.map (· / 2)) 0) + denL (c.map (· / 2)) 0 := by
  cases c with
  | nil => simp [chebSeriesLP]
  | cons c0 rest =>
    have h := denL_reverse_centre (rest.map (· / 2)) (rest.map (· / 2)) (c0 / 2) (c0 / 2)
    rw [add_halves, List.length_map, zero_sub] at h
    rw [chebSeriesLP, List.append_assoc, List.singleton_append]
    exact h

theorem FW_chebSeriesLP (c : List ℚ) (θ : ℝ) :
    FW ((chebSeriesLP c).1.map (fun q : ℚ => ((q : ℝ) : ℂ))) (chebSeriesLP c).2
        (exp (((θ / 2 : ℝ) : ℂ) * I)) = ((chebAt c (Real.cos θ) : ℝ) : ℂ) := by
  rw [← evalQ_denL, denL_chebSeriesLP, chebAt]
  refine evalQ_symm_denL c 0 _ _ 0 fun j => ?_
  rw [zero_add, Polynomial.Chebyshev.T_real_cos]
  congr 1
  push_cast
  ring

theorem chebSupLe_sound (c : List ℚ) (B : ℚ) (depth : ℕ) (h : (chebSupLe c B depth).1 = true) :
    ∀ x : ℝ, x ∈ Set.Icc (-1 : ℝ) 1 → |chebAt c x| ≤ (B : ℝ) := by
  intro x hx
  unfold chebSupLe at h
  dsimp only at h
  split at h
  · exact (abs_chebAt_le_l1 c x hx).trans (Rat.cast_le.2 ‹_›)
  · have := supLeReal_sound _ _ B depth h _ (Complex.norm_exp_ofReal_mul_I (Real.arccos x / 2))
    rwa [FW_chebSeriesLP, Real.cos_arccos hx.1 hx.2, Complex.norm_real, Real.norm_eq_abs] at this

/-! ### the exact evaluator `chebEval` -/

theorem eval_T_add_two (x : ℝ) (k : ℤ) :
    (Polynomial.Chebyshev.T ℝ (k + 2)).eval x =
      2 * x * (Polynomial.Chebyshev.T ℝ (k + 1)).eval x - (Polynomial.Chebyshev.T ℝ k).eval x := by
  rw [Polynomial.Chebyshev.T_add_two, Polynomial.eval_sub, Polynomial.eval_mul, Polynomial.eval_mul,
    Polynomial.eval_ofNat, Polynomial.eval_X]

theorem chebEvalAux_spec (x : ℚ) (c : List ℚ) (k : ℕ) (t0 t1 : ℚ)
    (h0 : (t0 : ℝ) = (Polynomial.Chebyshev.T ℝ (k : ℤ)).eval (x : ℝ))
    (h1 : (t1 : ℝ) = (Polynomial.Chebyshev.T ℝ ((k : ℤ) + 1)).eval (x : ℝ)) :
    ((chebEvalAux x c t0 t1 : ℚ) : ℝ) =
      wsum (fun j => (Polynomial.Chebyshev.T ℝ (j : ℤ)).eval (x : ℝ)) c k := by
  induction c generalizing k t0 t1 with
  | nil => simp [chebEvalAux, wsum]
  | cons a as ih =>
    rw [chebEvalAux, wsum]
    push_cast
    rw [ih (k + 1) t1 (2 * x * t1 - t0), h0]
    · push_cast; exact h1
    · push_cast
      rw [add_assoc, one_add_one_eq_two, eval_T_add_two, h0, h1]

theorem chebEval_chebAt (c : List ℚ) (x : ℚ) : ((chebEval c x : ℚ) : ℝ) = chebAt c (x : ℝ) := by
  rw [chebEval, chebAt]
  apply chebEvalAux_spec <;> simp

theorem chebEval_spec (c : List ℚ) (x : ℚ) :
    ((chebEval c x : ℚ) : ℝ) = ∑ k ∈ Finset.range c.length,
      ((c.getD k 0 : ℚ) : ℝ) * (Polynomial.Chebyshev.T ℝ (k : ℤ)).eval (x : ℝ) := by
  rw [chebEval_chebAt, chebAt_eq_sum]

/-! ### `chebToLP` -/

theorem den_chebToLP (par : ℕ) (c : List ℚ) :
    den (chebToLP par c) = invert (denL (c.map (· / 2)) ((par % 2 : ℕ) : ℤ)) +
      denL (c.map (· / 2)) ((par % 2 : ℕ) : ℤ) := by
  unfold chebToLP
  split
  · rename_i hp
    have h := denL_reverse_append (c.map (· / 2)) (c.map (· / 2)) (j := 1) (k := 1) rfl
    rw [List.length_map, sub_eq_neg_add] at h
    rw [hp, Nat.cast_one]
    exact (den_mk' _ _).trans h
  · rename_i hp
    rw [Nat.mod_two_ne_one.mp hp, Nat.cast_zero]
    -- on even parity the stored vector is that of `chebSeriesLP`
    cases c with
    | nil => simpa using den_zero.1
    | cons c0 rest => exact (den_mk' _ _).trans (denL_chebSeriesLP (c0 :: rest))

theorem chebToLP_WF (par : ℕ) (c : List ℚ) : (chebToLP par c).WF := by
  unfold chebToLP
  split
  · exact WF_mk' _ _
  · cases c with
    | nil => exact den_zero.2
    | cons c0 rest => exact WF_mk' _ _

theorem chebToLP_spec (par : ℕ) (c : List ℚ) (θ : ℝ) :
    evQ (chebToLP par c) θ = ((∑ k ∈ Finset.range c.length,
      ((c.getD k 0 : ℚ) : ℝ) * Real.cos (((2 * k + par % 2 : ℕ) : ℝ) * θ) : ℝ) : ℂ) ∧
    (chebToLP par c).WF := by
  refine ⟨?_, chebToLP_WF par c⟩
  rw [evQ_eq, den_chebToLP,
    evalQ_symm_denL c _ θ (fun k => Real.cos (((2 * k + par % 2 : ℕ) : ℝ) * θ)) 0 fun j => by
      rw [zero_add, Int.cast_natCast, Nat.cast_add, Nat.cast_mul, Nat.cast_ofNat, add_comm],
    wsum_eq_sum]
  simp only [zero_add]

theorem chebToLP_spec_T (par : ℕ) (c : List ℚ) (θ : ℝ) :
    evQ (chebToLP par c) θ = ((∑ k ∈ Finset.range c.length,
      ((c.getD k 0 : ℚ) : ℝ) *
        (Polynomial.Chebyshev.T ℝ ((2 * k + par % 2 : ℕ) : ℤ)).eval (Real.cos θ) : ℝ) : ℂ) := by
  rw [(chebToLP_spec par c θ).1]
  congr 2
  funext k
  rw [Polynomial.Chebyshev.T_real_cos]
  push_cast
  rfl

/-- evaluated once by the kernel, for the example below and those of `QSP/Properties/C15.lean` -/
theorem chebSupLe_accepted : chebSupLe [1 / 2, 1 / 3, -1 / 4] (101 / 100) 20 = (true, 9) := by
  decide +kernel

/-- `T_0/2 + T_1/3 - T_2/4` has 1-norm `13/12 > 1.01`, so the bound is certified by `supLeReal`
    (9 evaluations) and not by the 1-norm -/
example : chebSupLe [1 / 2, 1 / 3, -1 / 4] (101 / 100) 20 = (true, 9) ∧
    chebEval [1 / 2, 1 / 3, -1 / 4] 1 = 7 / 12 :=
  ⟨chebSupLe_accepted, by decide +kernel⟩

end QSP
