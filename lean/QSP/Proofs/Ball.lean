/-
  The product-perturbation bound behind `prodErr` (`QSP/Model/Response.lean`), in an
  arbitrary normed ring: `x a - x̃ ã = (x - x̃) a + x̃ (a - ã)`, factor by factor.
-/
import QSP.Model.Response
import Mathlib.Analysis.Normed.Ring.Basic
import Mathlib.Algebra.Order.Ring.Rat
import Mathlib.Data.Rat.Cast.Order
import Mathlib.Tactic.Abel
import Mathlib.Tactic.Linarith

namespace QSP

theorem prodErr_nil (pe : ℚ × ℚ) : prodErr [] pe = pe := by
  obtain ⟨P, E⟩ := pe; rfl

theorem prodErr_cons (α η : ℚ) (rest : List (ℚ × ℚ)) (P E : ℚ) :
    prodErr ((α, η) :: rest) (P, E) = prodErr rest (P * α, E * (α + η) + P * η) := rfl

theorem norm_le_one_add {A : Type} [SeminormedAddCommGroup A] {a a' : A} {η : ℝ} (ha : ‖a‖ ≤ 1)
    (h : ‖a - a'‖ ≤ η) : ‖a'‖ ≤ 1 + η :=
  (norm_le_norm_add_norm_sub a a').trans (add_le_add ha h)

theorem norm_sub_le_of_approx {A : Type} [SeminormedAddCommGroup A] {u u' m m' : A} {E E' D : ℝ}
    (h : ‖m - u‖ ≤ E) (h' : ‖m' - u'‖ ≤ E') (hd : ‖m' - m‖ ≤ D) : ‖u' - u‖ ≤ D + E + E' := by
  have h1 := norm_sub_le_norm_sub_add_norm_sub u' m' u
  have h2 := norm_sub_le_norm_sub_add_norm_sub m' m u
  rw [norm_sub_rev u' m'] at h1
  linarith

theorem norm_mul_le_one {A : Type} [NormedRing A] {a b : A} (ha : ‖a‖ ≤ 1) (hb : ‖b‖ ≤ 1) :
    ‖a * b‖ ≤ 1 :=
  (norm_mul_le_of_le ha hb).trans_eq (one_mul 1)

theorem norm_mul_left_le {A : Type} [NormedRing A] {W : A} (hW : ‖W‖ ≤ 1) {a a' : A} {α η : ℝ}
    (hα : ‖a'‖ ≤ α) (hη : ‖a - a'‖ ≤ η) : ‖W * a'‖ ≤ α ∧ ‖W * a - W * a'‖ ≤ η := by
  rw [← mul_sub]
  exact ⟨(norm_mul_le_of_le hW hα).trans_eq (one_mul α),
    (norm_mul_le_of_le hW hη).trans_eq (one_mul η)⟩

theorem prodErr_step {A : Type} [NormedRing A] (x x' a a' : A) (P E α η : ℝ)
    (hP : ‖x'‖ ≤ P) (hE : ‖x - x'‖ ≤ E) (hα : ‖a'‖ ≤ α) (hη : ‖a - a'‖ ≤ η) :
    ‖x' * a'‖ ≤ P * α ∧ ‖x * a - x' * a'‖ ≤ E * (α + η) + P * η := by
  have ha : ‖a‖ ≤ α + η := (norm_le_norm_add_norm_sub' a a').trans (add_le_add hα hη)
  refine ⟨norm_mul_le_of_le hP hα, ?_⟩
  rw [show x * a - x' * a' = (x - x') * a + x' * (a - a') by rw [sub_mul, mul_sub]; abel]
  exact norm_add_le_of_le (norm_mul_le_of_le hE ha) (norm_mul_le_of_le hP hη)

/-- one factor `W̃ P̃` of the response product against `W P`, `W` of norm at most one: the pair that
    `respBounds` lists -/
theorem factor_bound {A : Type} [NormedRing A] {W W' P P' : A} {w d : ℝ} (hW : ‖W‖ ≤ 1)
    (hWe : ‖W - W'‖ ≤ w) (hPe : ‖P - P'‖ ≤ d) (hP' : ‖P'‖ ≤ 1 + d) :
    ‖W' * P'‖ ≤ (1 + w) * (1 + d) ∧ ‖W * P - W' * P'‖ ≤ w * (1 + d) + d := by
  refine ⟨norm_mul_le_of_le (norm_le_one_add hW hWe) hP', ?_⟩
  rw [show W * P - W' * P' = (W - W') * P' + W * (P - P') by rw [sub_mul, mul_sub]; abel]
  exact norm_add_le_of_le (norm_mul_le_of_le hWe hP')
    ((norm_mul_le_of_le hW hPe).trans_eq (one_mul d))

/-- The exact factors `a i` and the approximated ones `a' k` run over two lists: in `BallSound` the
    real angles and their rational enclosures. -/
theorem prodErr_forall₂ {A ι κ : Type} [NormedRing A] (a : ι → A) (a' : κ → A) (β : κ → ℚ × ℚ)
    {ks : List κ} {is : List ι}
    (hl : List.Forall₂ (fun k i => ‖a' k‖ ≤ (((β k).1 : ℚ) : ℝ) ∧
      ‖a i - a' k‖ ≤ (((β k).2 : ℚ) : ℝ)) ks is)
    (x x' : A) (P E : ℚ) (hP : ‖x'‖ ≤ ((P : ℚ) : ℝ)) (hE : ‖x - x'‖ ≤ ((E : ℚ) : ℝ)) :
    ‖ks.foldl (fun acc k => acc * a' k) x'‖ ≤ (((prodErr (ks.map β) (P, E)).1 : ℚ) : ℝ) ∧
    ‖is.foldl (fun acc i => acc * a i) x - ks.foldl (fun acc k => acc * a' k) x'‖
        ≤ (((prodErr (ks.map β) (P, E)).2 : ℚ) : ℝ) ∧
    0 ≤ (prodErr (ks.map β) (P, E)).1 ∧ 0 ≤ (prodErr (ks.map β) (P, E)).2 := by
  induction hl generalizing x x' P E with
  | nil =>
    exact ⟨hP, hE, Rat.cast_nonneg.mp ((norm_nonneg _).trans hP),
      Rat.cast_nonneg.mp ((norm_nonneg _).trans hE)⟩
  | @cons k i ks is h _ ih =>
    obtain ⟨h1, h2⟩ := prodErr_step x x' (a i) (a' k) P E _ _ hP hE h.1 h.2
    exact ih (x * a i) (x' * a' k) _ _ (by push_cast; exact h1) (by push_cast; exact h2)

/-- Give `β` as a pair `fun i => (_, _)`: with `hl` stated through projections of a `β` that is
    itself a projection the unifier does not come back. -/
theorem prodErr_foldl {A ι : Type} [NormedRing A] (a a' : ι → A) (β : ι → ℚ × ℚ) (l : List ι)
    (hl : ∀ i ∈ l, ‖a' i‖ ≤ (((β i).1 : ℚ) : ℝ) ∧ ‖a i - a' i‖ ≤ (((β i).2 : ℚ) : ℝ))
    (x x' : A) (P E : ℚ) (hP : ‖x'‖ ≤ ((P : ℚ) : ℝ)) (hE : ‖x - x'‖ ≤ ((E : ℚ) : ℝ)) :
    ‖l.foldl (fun acc i => acc * a' i) x'‖ ≤ (((prodErr (l.map β) (P, E)).1 : ℚ) : ℝ) ∧
    ‖l.foldl (fun acc i => acc * a i) x - l.foldl (fun acc i => acc * a' i) x'‖
        ≤ (((prodErr (l.map β) (P, E)).2 : ℚ) : ℝ) ∧
    0 ≤ (prodErr (l.map β) (P, E)).1 ∧ 0 ≤ (prodErr (l.map β) (P, E)).2 :=
  prodErr_forall₂ a a' β (List.forall₂_same.mpr hl) x x' P E hP hE

/-- `l` lists the entries `(a, ã, α, η)` with `‖ã‖ ≤ α` and `‖a - ã‖ ≤ η`. -/
theorem prodErr_sound {A : Type} [NormedRing A] (l : List (A × A × ℚ × ℚ))
    (hl : ∀ e ∈ l, ‖e.2.1‖ ≤ ((e.2.2.1 : ℚ) : ℝ) ∧ ‖e.1 - e.2.1‖ ≤ ((e.2.2.2 : ℚ) : ℝ))
    (x x' : A) (P E : ℚ) (hP : ‖x'‖ ≤ ((P : ℚ) : ℝ)) (hE : ‖x - x'‖ ≤ ((E : ℚ) : ℝ)) :
    ‖l.foldl (fun acc e => acc * e.2.1) x'‖
        ≤ (((prodErr (l.map (fun e => (e.2.2.1, e.2.2.2))) (P, E)).1 : ℚ) : ℝ) ∧
    ‖l.foldl (fun acc e => acc * e.1) x - l.foldl (fun acc e => acc * e.2.1) x'‖
        ≤ (((prodErr (l.map (fun e => (e.2.2.1, e.2.2.2))) (P, E)).2 : ℚ) : ℝ) ∧
    0 ≤ (prodErr (l.map (fun e => (e.2.2.1, e.2.2.2))) (P, E)).1 ∧
    0 ≤ (prodErr (l.map (fun e => (e.2.2.1, e.2.2.2))) (P, E)).2 :=
  prodErr_foldl (·.1) (·.2.1) (fun e => (e.2.2.1, e.2.2.2)) l hl x x' P E hP hE

theorem prodErr_sound_prod {A : Type} [NormedRing A] [NormOneClass A]
    (l : List (A × A × ℚ × ℚ))
    (hl : ∀ e ∈ l, ‖e.2.1‖ ≤ ((e.2.2.1 : ℚ) : ℝ) ∧ ‖e.1 - e.2.1‖ ≤ ((e.2.2.2 : ℚ) : ℝ)) :
    ‖(l.map (fun e => e.2.1)).prod‖
        ≤ (((prodErr (l.map (fun e => (e.2.2.1, e.2.2.2))) (1, 0)).1 : ℚ) : ℝ) ∧
    ‖(l.map (fun e => e.1)).prod - (l.map (fun e => e.2.1)).prod‖
        ≤ (((prodErr (l.map (fun e => (e.2.2.1, e.2.2.2))) (1, 0)).2 : ℚ) : ℝ) ∧
    0 ≤ (prodErr (l.map (fun e => (e.2.2.1, e.2.2.2))) (1, 0)).1 ∧
    0 ≤ (prodErr (l.map (fun e => (e.2.2.1, e.2.2.2))) (1, 0)).2 := by
  have h := prodErr_sound l hl (1 : A) (1 : A) 1 0 (by simp) (by simp)
  rwa [List.prod_eq_foldl, List.prod_eq_foldl, List.foldl_map, List.foldl_map] at *

end QSP
