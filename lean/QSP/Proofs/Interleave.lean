/-
  The glue model `QSP/Model/Interleave.lean` (property C05b).  A vector built by
  `interleaveOne` from first-kind Chebyshev coefficients `a` and second-kind coefficients `b` has
  `a.length` entries (`slot_length`) and, on the powers `-deg, -deg + 2, …, deg`, the value
  `Σ_k a_k cos kθ ± i Σ_k b_{k-1} sin kθ` at `e^{iθ}` (`k ≤ deg`, `k ≡ deg mod 2`; `evalQ_slot`,
  `evalQ_slot_false`).  The vocabulary of these statements is defined here; the statements about
  `interleavePQ` are in `QSP/Properties/C05b.lean`.
-/
import QSP.Model.Interleave
import QSP.Proofs.Series

open LaurentPolynomial Complex
namespace QSP

/-! ## statement vocabulary -/

noncomputable def parSum (deg : ℕ) (h : ℕ → ℝ) : ℝ :=
  ∑ k ∈ (Finset.range (deg + 1)).filter (fun k => k % 2 = deg % 2), h k

noncomputable def cosPart (deg : ℕ) (c : List ℚ) (θ : ℝ) : ℝ :=
  parSum deg (fun k => ((c.getD k 0 : ℚ) : ℝ) * Real.cos ((k : ℝ) * θ))

/-- `c_j` is the coefficient of `U_j`, and `U_j(cos θ) sin θ = sin((j+1)θ)`: hence the shift
    `0 :: c` -/
noncomputable def sinPart (deg : ℕ) (c : List ℚ) (θ : ℝ) : ℝ :=
  parSum deg (fun k => (((0 :: c).getD k 0 : ℚ) : ℝ) * Real.sin ((k : ℝ) * θ))

/-- `Σ_j c_j U_j(x)` -/
noncomputable def chebUAt (c : List ℚ) (x : ℝ) : ℝ :=
  wsum (fun k => (Polynomial.Chebyshev.U ℝ (k : ℤ)).eval x) c 0

theorem cosPart_neg (deg : ℕ) (c : List ℚ) (θ : ℝ) : cosPart deg c (-θ) = cosPart deg c θ := by
  simp only [cosPart, mul_neg, Real.cos_neg]

theorem sinPart_neg (deg : ℕ) (c : List ℚ) (θ : ℝ) : sinPart deg c (-θ) = - sinPart deg c θ := by
  simp only [sinPart, parSum, mul_neg, Real.sin_neg, Finset.sum_neg_distrib]

theorem ofReal_parSum (deg : ℕ) (h : ℕ → ℝ) :
    ((parSum deg h : ℝ) : ℂ) =
      ∑ k ∈ (Finset.range (deg + 1)).filter (fun k => k % 2 = deg % 2), ((h k : ℝ) : ℂ) := by
  rw [parSum, Complex.ofReal_sum]

theorem parSum_eq_sum_range (deg : ℕ) (h : ℕ → ℝ) (hz : ∀ k, k % 2 ≠ deg % 2 → h k = 0) :
    parSum deg h = ∑ k ∈ Finset.range (deg + 1), h k := by
  rw [parSum, Finset.sum_filter]
  apply Finset.sum_congr rfl
  intro k _
  split
  · rfl
  · exact (hz k ‹_›).symm

/-! ## the pieces of `interleavePQ` -/

theorem everyOther_length (par : ℕ) (l : List ℚ) :
    (everyOther par l).length = (l.length + 1 - par % 2) / 2 := by
  unfold everyOther
  split
  · rename_i h
    rw [(evens_odds_length l).1, h]; rfl
  · rename_i h
    rw [(evens_odds_length l).2, Nat.mod_two_ne_zero.mp h]; rfl

theorem everyOther_getD (par : ℕ) (l : List ℚ) (j : ℕ) :
    (everyOther par l).getD j 0 = l.getD (2 * j + par % 2) 0 := by
  unfold everyOther
  split
  · rename_i h
    rw [(evens_odds_getD l 0 j).1, h]; rfl
  · rename_i h
    rw [(evens_odds_getD l 0 j).2, Nat.mod_two_ne_zero.mp h]

theorem halfSub_length {a b : List ℚ} (h : a.length ≤ b.length) :
    (halfSub a b).length = a.length := by
  rw [halfSub, List.length_zipWith, Nat.min_eq_left h]

theorem halfAdd_length {a b : List ℚ} (h : a.length ≤ b.length) :
    (halfAdd a b).length = a.length := by
  rw [halfAdd, List.length_zipWith, Nat.min_eq_left h]

theorem halfSub_cons (a b : ℚ) (as bs : List ℚ) :
    halfSub (a :: as) (b :: bs) = (a - b) / 2 :: halfSub as bs := rfl

theorem halfAdd_cons (a b : ℚ) (as bs : List ℚ) :
    halfAdd (a :: as) (b :: bs) = (a + b) / 2 :: halfAdd as bs := rfl

theorem interleaveOne_false (deg : ℕ) (p q : List ℚ) :
    interleaveOne deg p q false = (interleaveOne deg p q true).reverse := by
  simp only [interleaveOne, Bool.false_eq_true, if_false, if_true]
  split
  · cases p with
    | nil => rfl
    | cons p0 pt =>
      simp only [List.reverse_append, List.reverse_reverse, List.reverse_singleton,
        List.append_assoc]
  · rw [List.reverse_append, List.reverse_reverse]

/-! ## lengths -/

theorem slot_input_lengths {deg : ℕ} {a b : List ℚ} (ha : a.length = deg + 1) (hb : deg ≤ b.length) :
    (everyOther deg a).length = deg / 2 + 1 ∧
      (everyOther deg a).length ≤ (everyOther deg (0 :: b)).length := by
  rw [everyOther_length, everyOther_length, List.length_cons, ha]
  exact ⟨by omega, Nat.div_le_div_right (Nat.sub_le_sub_right (by omega) _)⟩

/-- one entry per power `-deg, -deg + 2, …, deg`, from one entry of `p` per index
    `deg % 2, deg % 2 + 2, …, deg` -/
theorem interleaveOne_length (deg : ℕ) (p q : List ℚ) (b : Bool)
    (hp : p.length = deg / 2 + 1) (hl : p.length ≤ q.length) :
    (interleaveOne deg p q b).length = deg + 1 := by
  have hb : (interleaveOne deg p q b).length = (interleaveOne deg p q true).length := by
    cases b
    · rw [interleaveOne_false, List.length_reverse]
    · rfl
  obtain ⟨p0, pt, rfl⟩ := List.exists_cons_of_length_eq_add_one hp
  rw [hb]
  simp only [interleaveOne, ↓reduceIte]
  split
  · simp only [List.length_append, List.length_reverse, List.length_drop, halfSub_length hl,
      halfAdd_length hl, hp, List.length_cons, List.length_nil]
    omega
  · simp only [List.length_append, List.length_reverse, halfSub_length hl, halfAdd_length hl, hp]
    omega

theorem slot_length (a b : List ℚ) (f : Bool) (hb : a.length - 1 ≤ b.length) :
    (interleaveOne (a.length - 1) (everyOther (a.length - 1) a)
      (everyOther (a.length - 1) (0 :: b)) f).length = a.length := by
  cases a with
  | nil => cases f <;> rfl
  | cons x xs =>
    have ⟨h1, h2⟩ := slot_input_lengths (a := x :: xs) rfl hb
    exact interleaveOne_length _ _ _ f h1 h2

/-! ## the core identity: `(a-b)/2 · w^-k + (a+b)/2 · w^k = a cos kθ + i b sin kθ` -/

/-- `Σ_j ( a_j cos((k+2j)θ) + i b_j sin((k+2j)θ) )` over the common length -/
noncomputable def csL : List ℚ → List ℚ → ℕ → ℝ → ℂ
  | a :: as, b :: bs, k, θ =>
      (a : ℂ) * ((Real.cos ((k : ℝ) * θ) : ℝ) : ℂ) + I * (b : ℂ) * ((Real.sin ((k : ℝ) * θ) : ℝ) : ℂ)
        + csL as bs (k + 2) θ
  | [], _, _, _ => 0
  | _ :: _, [], _, _ => 0

theorem csL_nil_right (a : List ℚ) (k : ℕ) (θ : ℝ) : csL a [] k θ = 0 := by
  cases a <;> rfl

theorem pair_eq (a b : ℚ) (k : ℕ) (θ : ℝ) :
    (((((a - b) / 2 : ℚ) : ℝ) : ℂ)) * exp (((-θ : ℝ) : ℂ) * I) ^ (k : ℤ) +
      (((((a + b) / 2 : ℚ) : ℝ) : ℂ)) * exp ((θ : ℂ) * I) ^ (k : ℤ) =
    (a : ℂ) * ((Real.cos ((k : ℝ) * θ) : ℝ) : ℂ) +
      I * (b : ℂ) * ((Real.sin ((k : ℝ) * θ) : ℝ) : ℂ) := by
  rw [← Complex.exp_int_mul, ← Complex.exp_int_mul]
  push_cast
  rw [Complex.cos, Complex.sin]
  have e1 : (k : ℂ) * (-(θ : ℂ) * I) = -((k : ℂ) * (θ : ℂ)) * I := by ring
  have e2 : (k : ℂ) * ((θ : ℂ) * I) = (k : ℂ) * (θ : ℂ) * I := by ring
  rw [e1, e2]
  linear_combination
    (-(b : ℂ) * (exp (-((k : ℂ) * (θ : ℂ)) * I) - exp ((k : ℂ) * (θ : ℂ) * I)) / 2) * I_mul_I

-- `RingHom.map_add`, `RingHom.map_mul` on `evalQ θ`, here and below: the generic `map_add` costs an
-- `AddHomClass` search at each use and leaves a term that is slow to check
theorem evalQ_halves (p q : List ℚ) (k : ℕ) (θ : ℝ) :
    evalQ (-θ) (denL (halfSub p q) (k : ℤ)) + evalQ θ (denL (halfAdd p q) (k : ℤ)) =
      csL p q k θ := by
  induction p generalizing q k with
  | nil => simp [halfSub, halfAdd, csL]
  | cons a as ih =>
    cases q with
    | nil => simp [halfSub, halfAdd, csL]
    | cons b bs =>
      simp only [halfSub_cons, halfAdd_cons, denL_cons, RingHom.map_add, RingHom.map_mul, evalQ_C,
        evalQ_T, csL]
      rw [← pair_eq, ← ih bs (k + 2)]
      push_cast
      ring

theorem evalQ_interleaveOne (deg : ℕ) (p q : List ℚ) (hp : p.length = deg / 2 + 1)
    (hl : p.length ≤ q.length) (θ : ℝ) :
    evalQ θ (denL (interleaveOne deg p q true) (-(deg : ℤ))) = csL p q (deg % 2) θ := by
  simp only [interleaveOne, ↓reduceIte]
  split
  · rename_i he
    obtain ⟨p0, pt, rfl⟩ := List.exists_cons_of_length_eq_add_one hp
    obtain ⟨q0, qt, rfl⟩ := List.exists_cons_of_length_pos (Nat.lt_of_lt_of_le (Nat.succ_pos _) hl)
    have e : -(deg : ℤ) = 0 - 2 * ((halfSub pt qt).length : ℤ) := by
      rw [halfSub_length (Nat.le_of_succ_le_succ hl)]; simp only [List.length_cons] at hp; omega
    -- the centre `p0` is the sum of the two heads `(p0 - q0)/2`, `(p0 + q0)/2`, so this is the
    -- odd case with a shared middle term
    have hc : (p0 - q0) / 2 + (p0 + q0) / 2 = p0 := by ring
    simp only [halfSub_cons, halfAdd_cons, List.drop_succ_cons, List.drop_zero,
      List.append_assoc, List.singleton_append]
    rw [he, ← evalQ_halves, halfSub_cons, halfAdd_cons, ← evalQ_invert, ← RingHom.map_add,
      Nat.cast_zero, ← denL_reverse_centre, ← e, hc]
  · rename_i ho
    have e : -(deg : ℤ) = 1 - 2 * ((halfSub p q).length : ℤ) := by rw [halfSub_length hl]; omega
    rw [e, denL_reverse_append _ _ (j := 1) rfl, RingHom.map_add, evalQ_invert,
      Nat.mod_two_ne_zero.mp ho]
    exact evalQ_halves p q 1 θ

/-! ## from the two-step list sum to the parity-filtered sum -/

theorem csL_eq_sum (p q : List ℚ) (hl : p.length ≤ q.length) (k : ℕ) (θ : ℝ) :
    csL p q k θ = ∑ j ∈ Finset.range p.length,
      ((p.getD j 0 : ℂ) * ((Real.cos (((k + 2 * j : ℕ) : ℝ) * θ) : ℝ) : ℂ) +
        I * (q.getD j 0 : ℂ) * ((Real.sin (((k + 2 * j : ℕ) : ℝ) * θ) : ℝ) : ℂ)) := by
  induction p generalizing q k with
  | nil => rfl
  | cons a as ih =>
    obtain ⟨b, bs, rfl⟩ := List.exists_cons_of_length_pos (Nat.lt_of_lt_of_le (Nat.succ_pos _) hl)
    rw [csL, ih bs (Nat.le_of_succ_le_succ hl), List.length_cons, Finset.sum_range_succ', add_comm]
    simp only [List.getD_cons_succ, List.getD_cons_zero, Nat.mul_zero, Nat.add_zero, Nat.mul_succ,
      ← Nat.add_assoc, Nat.add_right_comm k 2]

theorem sum_filter_parity {M : Type} [AddCommMonoid M] (deg : ℕ) (h : ℕ → M) :
    ∑ k ∈ (Finset.range (deg + 1)).filter (fun k => k % 2 = deg % 2), h k =
      ∑ j ∈ Finset.range (deg / 2 + 1), h (deg % 2 + 2 * j) := by
  -- the bijection `j ↦ deg % 2 + 2 j` with inverse `k ↦ k / 2`
  refine (Finset.sum_nbij' (fun j => deg % 2 + 2 * j) (fun k => k / 2) ?_ ?_ ?_ ?_ ?_).symm
  · intro j hj
    rw [Finset.mem_filter, Finset.mem_range, Nat.add_mul_mod_self_left, Nat.mod_mod]
    refine ⟨Nat.lt_succ_of_le ?_, rfl⟩
    calc deg % 2 + 2 * j ≤ deg % 2 + 2 * (deg / 2) :=
          Nat.add_le_add_left (Nat.mul_le_mul_left 2 (Nat.le_of_lt_succ (Finset.mem_range.mp hj))) _
      _ = deg := Nat.mod_add_div deg 2
  · intro k hk
    exact Finset.mem_range.mpr (Nat.lt_succ_of_le (Nat.div_le_div_right
      (Nat.le_of_lt_succ (Finset.mem_range.mp (Finset.mem_filter.mp hk).1))))
  · intro j _
    show (deg % 2 + 2 * j) / 2 = j
    rw [Nat.add_mul_div_left _ _ two_pos, Nat.div_eq_of_lt (Nat.mod_lt deg two_pos), Nat.zero_add]
  · intro k hk
    show deg % 2 + 2 * (k / 2) = k
    rw [← (Finset.mem_filter.mp hk).2, Nat.mod_add_div]
  · intro j _; rfl

/-- the degree is written `a.length - 1` as in `interleavePQ`, so that the empty slot is covered -/
theorem evalQ_slot (a b : List ℚ) (hb : a.length - 1 ≤ b.length) (θ : ℝ) :
    evalQ θ (denL (interleaveOne (a.length - 1) (everyOther (a.length - 1) a)
        (everyOther (a.length - 1) (0 :: b)) true) (-((a.length - 1 : ℕ) : ℤ))) =
      ((cosPart (a.length - 1) a θ : ℝ) : ℂ) + I * ((sinPart (a.length - 1) b θ : ℝ) : ℂ) := by
  cases a with
  | nil =>
    -- both sums are their term `k = 0`, with coefficients `[][0] = 0` and `(0 :: b)[0] = 0`
    have h : ∀ g : ℕ → ℝ, parSum 0 g = g 0 := fun g => Finset.sum_singleton g 0
    show evalQ θ (denL [] _) = ((cosPart 0 [] θ : ℝ) : ℂ) + I * ((sinPart 0 b θ : ℝ) : ℂ)
    rw [cosPart, sinPart, h, h, List.getD_nil, List.getD_cons_zero, Rat.cast_zero, zero_mul,
      zero_mul, Complex.ofReal_zero, mul_zero, add_zero, denL_nil, map_zero]
  | cons x xs =>
    obtain ⟨h1, h2⟩ := slot_input_lengths (a := x :: xs) rfl hb
    rw [show (x :: xs).length - 1 = xs.length from rfl, evalQ_interleaveOne _ _ _ h1 h2,
      csL_eq_sum _ _ h2, h1, cosPart, sinPart, ofReal_parSum, ofReal_parSum, Finset.mul_sum,
      ← Finset.sum_add_distrib, sum_filter_parity]
    refine Finset.sum_congr rfl fun j _ => ?_
    rw [everyOther_getD, everyOther_getD, Nat.add_comm (2 * j)]
    push_cast
    ring

/-- the `gcoefs` pattern: read backwards, the vector takes the value at `e^{-iθ}` -/
theorem evalQ_slot_false (a b : List ℚ) (hb : a.length - 1 ≤ b.length) (θ : ℝ) :
    evalQ θ (denL (interleaveOne (a.length - 1) (everyOther (a.length - 1) a)
        (everyOther (a.length - 1) (0 :: b)) false) (-((a.length - 1 : ℕ) : ℤ))) =
      ((cosPart (a.length - 1) a θ : ℝ) : ℂ) - I * ((sinPart (a.length - 1) b θ : ℝ) : ℂ) := by
  have h := evalQ_slot a b hb (-θ)
  rw [cosPart_neg, sinPart_neg, Complex.ofReal_neg, mul_neg, ← sub_eq_add_neg] at h
  rw [← h, interleaveOne_false, ← evalQ_invert]
  cases a with
  | nil => rfl
  | cons x xs =>
    rw [denL_reverse_sym (n := (x :: xs).length - 1) (slot_length (x :: xs) b true hb)]

end QSP
