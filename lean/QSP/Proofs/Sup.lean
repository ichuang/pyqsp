/-
  Soundness of the executable sup-norm certificate `QSP/Model/Sup.lean`.

  For `u = cayleyC s`, `σ = cayleySin s = Im u` and every integer `k`, `|u^k - 1 - σ · i k| ≤ 2 s² k²`;
  summed over the terms of `f` this is the second-order bound `FW_second_order` with the single constant
  `Kw = sum_k 2 k² |c_k|`, which is what the model's `2 supL1 + 4 supM2` adds up to (`Kw_le_sup`).
-/
import QSP.Model.Sup
import Mathlib.Analysis.Complex.Basic
import Mathlib.Analysis.Complex.Norm
import Mathlib.Data.Complex.Basic
import Mathlib.Tactic.Ring
import Mathlib.Tactic.Linarith
import Mathlib.Tactic.FieldSimp
import Mathlib.Tactic.LinearCombination
import Mathlib.Tactic.Positivity
import Mathlib.Tactic.NormNum

open Complex
namespace QSP

/-! ## Complex-level definitions -/

/-- `sum_j cs[j] w^(d + 2 j)` -/
noncomputable def FW : List ℂ → ℤ → ℂ → ℂ
  | [], _, _ => 0
  | c :: cs, d, w => c * w ^ d + FW cs (d + 2) w

/-- `sum_j (d + 2 j) cs[j] w^(d + 2 j)` -/
noncomputable def DW : List ℂ → ℤ → ℂ → ℂ
  | [], _, _ => 0
  | c :: cs, d, w => (d : ℂ) * (c * w ^ d) + DW cs (d + 2) w

/-- `sum_j 2 (d + 2 j)² ‖cs[j]‖`, the constant of the second-order bound -/
noncomputable def Kw : List ℂ → ℤ → ℝ
  | [], _ => 0
  | c :: cs, d => ‖c‖ * (2 * (d : ℝ) ^ 2) + Kw cs (d + 2)

/-- the complex number a pair `(re, im)` of the model (`CQ`) stands for -/
def toC (a : ℚ × ℚ) : ℂ := ⟨(a.1 : ℝ), (a.2 : ℝ)⟩

/-- the circle point `e^{iα}` with `tan (α/2) = t`; `cayley` of the model computes it at rational `t` -/
noncomputable def cayleyC (t : ℝ) : ℂ := (1 + t * I) / (1 - t * I)

/-- the imaginary part of `cayleyC s`: the sine of the angle whose half-tangent is `s` -/
noncomputable def cayleySin (s : ℝ) : ℝ := 2 * s / (1 + s ^ 2)

/-! ## The Cayley parametrisation -/

theorem one_sub_mul_I_ne_zero (t : ℝ) : (1 : ℂ) - t * I ≠ 0 := by
  intro h
  have := congrArg Complex.re h
  simp at this

theorem one_add_mul_I_ne_zero (t : ℝ) : (1 : ℂ) + t * I ≠ 0 := by
  intro h
  have := congrArg Complex.re h
  simp at this

theorem one_add_sq_ne_zero (s : ℝ) : (1 : ℂ) + (s : ℂ) ^ 2 ≠ 0 := by
  have : (1 : ℝ) + s ^ 2 ≠ 0 := by positivity
  exact_mod_cast this

theorem norm_cayleyC (t : ℝ) : ‖cayleyC t‖ = 1 := by
  have h : (1 : ℂ) - t * I = (starRingEnd ℂ) (1 + t * I) := by simp [sub_eq_add_neg]
  rw [cayleyC, norm_div, h, Complex.norm_conj, div_self]
  exact norm_ne_zero_iff.mpr (one_add_mul_I_ne_zero t)

theorem cayleyC_ne_zero (t : ℝ) : cayleyC t ≠ 0 := by
  rw [← norm_ne_zero_iff, norm_cayleyC]; exact one_ne_zero

theorem cayleyC_neg (s : ℝ) : cayleyC (-s) = (cayleyC s)⁻¹ := by
  simp only [cayleyC, inv_div]
  push_cast
  ring_nf

theorem cayleyC_sub_one (s : ℝ) : cayleyC s - 1 = (cayleySin s : ℂ) * (I - s) := by
  have h1 := one_sub_mul_I_ne_zero s
  have h2 := one_add_sq_ne_zero s
  simp only [cayleyC, cayleySin]; push_cast
  field_simp
  linear_combination (2 * (s : ℂ) ^ 2) * I_sq

theorem cayleySin_neg (s : ℝ) : cayleySin (-s) = - cayleySin s := by
  simp only [cayleySin]; ring

theorem abs_cayleySin_le (s : ℝ) : |cayleySin s| ≤ 2 * |s| := by
  rw [cayleySin, abs_div, abs_mul, abs_two, abs_of_pos (by positivity : (0 : ℝ) < 1 + s ^ 2)]
  exact div_le_self (by positivity) (le_add_of_nonneg_right (sq_nonneg s))

theorem norm_cayleyC_sub_one_le (s : ℝ) : ‖cayleyC s - 1‖ ≤ 2 * |s| := by
  have h1 : (1 : ℝ) ≤ ‖(1 : ℂ) - s * I‖ := by
    simpa using Complex.abs_re_le_norm ((1 : ℂ) - s * I)
  have e : cayleyC s - 1 = 2 * s * I / (1 - s * I) := by
    rw [cayleyC, div_sub_one (one_sub_mul_I_ne_zero s)]; ring
  rw [e, norm_div, norm_mul, norm_mul, Complex.norm_I, mul_one, Complex.norm_ofNat,
    Complex.norm_real, Real.norm_eq_abs]
  exact div_le_self (by positivity) h1

/-- the tangent subtraction formula: for `t = tan (α/2)`, `m = tan (β/2)` the parameter of
    `cayleyC t / cayleyC m = e^{i(α-β)}` is `tan ((α-β)/2) = (t - m) / (1 + t m)` -/
theorem cayleyC_mul (t m : ℝ) (h : 0 < 1 + t * m) :
    cayleyC t = cayleyC m * cayleyC ((t - m) / (1 + t * m)) := by
  have hq : ((1 : ℂ) + t * m) ≠ 0 := by exact_mod_cast h.ne'
  have e1 : (1 : ℂ) + ((t - m) / (1 + t * m) : ℝ) * I
      = (1 + t * I) * (1 - m * I) / (1 + t * m) := by
    push_cast
    field_simp
    linear_combination ((t : ℂ) * m) * I_sq
  have e2 : (1 : ℂ) - ((t - m) / (1 + t * m) : ℝ) * I
      = (1 - t * I) * (1 + m * I) / (1 + t * m) := by
    push_cast
    field_simp
    linear_combination ((t : ℂ) * m) * I_sq
  have h1 := one_sub_mul_I_ne_zero t
  rw [cayleyC, cayleyC, cayleyC, e1, e2, div_div_div_cancel_right₀ hq, div_mul_div_comm,
    div_eq_div_iff h1 (mul_ne_zero (one_sub_mul_I_ne_zero m)
      (mul_ne_zero h1 (one_add_mul_I_ne_zero m)))]
  ring

theorem abs_cayley_arg_le (t m : ℝ) (ht : 0 ≤ t) (hm : 0 ≤ m) :
    |(t - m) / (1 + t * m)| ≤ |t - m| := by
  have h : 0 ≤ t * m := mul_nonneg ht hm
  rw [abs_div, abs_of_pos (by linarith : 0 < 1 + t * m)]
  exact div_le_self (abs_nonneg _) (le_add_of_nonneg_right h)

theorem quadrant_param (w : ℂ) (hw : ‖w‖ = 1) (hx : 0 ≤ w.re) (hy : 0 ≤ w.im) :
    ∃ t : ℝ, 0 ≤ t ∧ t ≤ 1 ∧ cayleyC t = w := by
  have him : w.im ≤ 1 := (le_abs_self _).trans ((Complex.abs_im_le_norm w).trans_eq hw)
  have hsq : w.re ^ 2 + w.im ^ 2 = 1 := by
    rw [← one_pow 2, ← hw, Complex.sq_norm, Complex.normSq_apply, sq, sq]
  obtain ⟨x, y⟩ := w
  simp only at hx hy hsq him
  have hpos : (0 : ℝ) < 1 + x := by linarith
  have hq : (1 : ℂ) + (x : ℂ) ≠ 0 := by exact_mod_cast hpos.ne'
  have hsqC : (x : ℂ) ^ 2 + (y : ℂ) ^ 2 = 1 := by exact_mod_cast hsq
  -- the half-angle tangent: `tan (α/2) = sin α / (1 + cos α)`
  refine ⟨y / (1 + x), by positivity, (div_le_one hpos).mpr (by linarith), ?_⟩
  rw [cayleyC, div_eq_iff (one_sub_mul_I_ne_zero _), Complex.mk_eq_add_mul_I]
  push_cast
  field_simp
  linear_combination ((y : ℂ) ^ 2) * I_sq - hsqC

/-! ## Powers of `cayleyC s` to second order -/

/-- with `u = cayleyC s`, `σ = cayleySin s`, `a_n = u ^ n - 1 - σ · i n` satisfies
    `a_(n+1) = u a_n + (σ · i n (u - 1) - σ · s)`, and `|σ| ≤ 2 |s|`, `|u - 1| ≤ 2 |s|`
    bound the increment by `4 n s² + 2 s² = 2 s² ((n + 1)² - n²)` -/
theorem cayley_npow_bound (s : ℝ) (n : ℕ) :
    ‖cayleyC s ^ n - 1 - (cayleySin s : ℂ) * I * n‖ ≤ s ^ 2 * (2 * (n : ℝ) ^ 2) := by
  induction n with
  | zero => simp
  | succ n ih =>
    have e : cayleyC s ^ (n + 1) - 1 - (cayleySin s : ℂ) * I * ((n + 1 : ℕ) : ℂ)
        = cayleyC s * (cayleyC s ^ n - 1 - (cayleySin s : ℂ) * I * n)
          + ((cayleySin s : ℂ) * I * n * (cayleyC s - 1) - (cayleySin s : ℂ) * s) := by
      push_cast
      linear_combination cayleyC_sub_one s
    have h1 : ‖(cayleySin s : ℂ) * I * n * (cayleyC s - 1)‖ ≤ 2 * |s| * n * (2 * |s|) := by
      rw [norm_mul, norm_mul, norm_mul, Complex.norm_I, mul_one, Complex.norm_real,
        Complex.norm_natCast, Real.norm_eq_abs]
      exact mul_le_mul (mul_le_mul_of_nonneg_right (abs_cayleySin_le s) n.cast_nonneg)
        (norm_cayleyC_sub_one_le s) (norm_nonneg _) (by positivity)
    have h2 : ‖(cayleySin s : ℂ) * s‖ ≤ 2 * |s| * |s| := by
      rw [norm_mul, Complex.norm_real, Complex.norm_real, Real.norm_eq_abs, Real.norm_eq_abs]
      exact mul_le_mul_of_nonneg_right (abs_cayleySin_le s) (abs_nonneg s)
    have h0 : ‖cayleyC s * (cayleyC s ^ n - 1 - (cayleySin s : ℂ) * I * n)‖
        ≤ s ^ 2 * (2 * (n : ℝ) ^ 2) := by rwa [norm_mul, norm_cayleyC, one_mul]
    rw [e]
    refine (norm_add_le _ _).trans
      ((add_le_add h0 ((norm_sub_le _ _).trans (add_le_add h1 h2))).trans_eq ?_)
    rw [← sq_abs s, Nat.cast_succ]
    ring

theorem cayley_zpow_bound (s : ℝ) (k : ℤ) :
    ‖cayleyC s ^ k - 1 - (cayleySin s : ℂ) * I * k‖ ≤ s ^ 2 * (2 * (k : ℝ) ^ 2) := by
  obtain ⟨n, rfl | rfl⟩ := Int.eq_nat_or_neg k
  · simpa using cayley_npow_bound s n
  · -- `u⁻¹ = cayleyC (-s)` and `cayleySin` is odd: the bound for `u^(-n)` is the one for `(-s, n)`
    have := cayley_npow_bound (-s) n
    rw [cayleyC_neg, cayleySin_neg] at this
    simp only [zpow_neg, zpow_natCast, Int.cast_neg, Int.cast_natCast, neg_sq]
    simp only [inv_pow, neg_sq, ofReal_neg] at this
    convert this using 2
    ring

/-! ## The second-order bound -/

theorem Kw_nonneg (cs : List ℂ) (d : ℤ) : 0 ≤ Kw cs d := by
  induction cs generalizing d with
  | nil => exact le_rfl
  | cons c cs ih =>
    simp only [Kw]
    have := ih (d + 2)
    positivity

/-- around a point `wm` of the unit circle: the term `c w^k` contributes
    `c wm^k (u^k - 1 - cayleySin s · i k)`, `u = cayleyC s`, which `cayley_zpow_bound` bounds -/
theorem FW_second_order (cs : List ℂ) (d : ℤ) (wm : ℂ) (hwm : ‖wm‖ = 1) (s : ℝ) :
    ‖FW cs d (wm * cayleyC s) - FW cs d wm - (cayleySin s : ℂ) * I * DW cs d wm‖ ≤ s ^ 2 * Kw cs d := by
  induction cs generalizing d with
  | nil => simp [FW, DW, Kw]
  | cons c cs ih =>
    simp only [FW, DW, Kw]
    have e : c * (wm * cayleyC s) ^ d + FW cs (d + 2) (wm * cayleyC s) - (c * wm ^ d + FW cs (d + 2) wm)
          - (cayleySin s : ℂ) * I * ((d : ℂ) * (c * wm ^ d) + DW cs (d + 2) wm)
        = c * wm ^ d * (cayleyC s ^ d - 1 - (cayleySin s : ℂ) * I * d)
          + (FW cs (d + 2) (wm * cayleyC s) - FW cs (d + 2) wm - (cayleySin s : ℂ) * I * DW cs (d + 2) wm) := by
      rw [mul_zpow]; ring
    rw [e]
    calc _ ≤ ‖c * wm ^ d * (cayleyC s ^ d - 1 - (cayleySin s : ℂ) * I * d)‖
          + ‖FW cs (d + 2) (wm * cayleyC s) - FW cs (d + 2) wm - (cayleySin s : ℂ) * I * DW cs (d + 2) wm‖ :=
          norm_add_le _ _
      _ ≤ ‖c‖ * (s ^ 2 * (2 * (d : ℝ) ^ 2)) + s ^ 2 * Kw cs (d + 2) := by
          refine add_le_add ?_ (ih (d + 2))
          rw [norm_mul, norm_mul, norm_zpow, hwm, one_zpow, mul_one]
          exact mul_le_mul_of_nonneg_left (cayley_zpow_bound s d) (norm_nonneg c)
      _ = _ := by ring

theorem norm_FW_mul_cayleyC_le (cs : List ℂ) (d : ℤ) (wm : ℂ) (hwm : ‖wm‖ = 1) (s : ℝ) :
    ‖FW cs d (wm * cayleyC s)‖
      ≤ ‖FW cs d wm‖ + 2 * |s| * ‖DW cs d wm‖ + s ^ 2 * Kw cs d := by
  have h3 : ‖(cayleySin s : ℂ) * I * DW cs d wm‖ ≤ 2 * |s| * ‖DW cs d wm‖ := by
    rw [norm_mul, norm_mul, Complex.norm_I, mul_one, Complex.norm_real, Real.norm_eq_abs]
    exact mul_le_mul_of_nonneg_right (abs_cayleySin_le s) (norm_nonneg _)
  linarith [FW_second_order cs d wm hwm s,
    norm_sub_norm_le (FW cs d (wm * cayleyC s)) (FW cs d wm),
    norm_sub_norm_le (FW cs d (wm * cayleyC s) - FW cs d wm) ((cayleySin s : ℂ) * I * DW cs d wm)]

/-! ## The rational model -/

theorem toC_eq (a : ℚ × ℚ) : toC a = ((a.1 : ℝ) : ℂ) + ((a.2 : ℝ) : ℂ) * I :=
  Complex.mk_eq_add_mul_I _ _

@[simp] theorem toC_re (a : ℚ × ℚ) : (toC a).re = (a.1 : ℝ) := rfl
@[simp] theorem toC_im (a : ℚ × ℚ) : (toC a).im = (a.2 : ℝ) := rfl

theorem toC_add (a b : CQ) : toC (a.add b) = toC a + toC b := by
  apply Complex.ext <;> simp [CQ.add]

theorem toC_mul (a b : CQ) : toC (a.mul b) = toC a * toC b := by
  apply Complex.ext <;> simp [CQ.mul]

theorem toC_conj (a : CQ) : toC a.conj = (starRingEnd ℂ) (toC a) := by
  apply Complex.ext <;> simp [CQ.conj]

theorem toC_smul (r : ℚ) (a : CQ) : toC (CQ.smul r a) = ((r : ℝ) : ℂ) * toC a := by
  apply Complex.ext <;> simp [CQ.smul]

theorem toC_npow (w : CQ) (n : ℕ) : toC (w.npow n) = toC w ^ n := by
  induction n with
  | zero => apply Complex.ext <;> simp [CQ.npow]
  | succ n ih => rw [CQ.npow, toC_mul, ih, pow_succ]

theorem toC_zpowU (w : CQ) (hw : ‖toC w‖ = 1) (k : ℤ) : toC (w.zpowU k) = toC w ^ k := by
  cases k with
  | ofNat n => simp [CQ.zpowU, toC_npow]
  | negSucc n =>
    rw [CQ.zpowU, toC_npow, toC_conj, ← Complex.inv_eq_conj hw, zpow_negSucc, inv_pow]

theorem cayley_spec (t : ℚ) : toC (cayley t) = cayleyC (t : ℝ) := by
  have h2 := one_add_sq_ne_zero (t : ℝ)
  rw [Complex.ofReal_ratCast] at h2
  rw [cayleyC, eq_div_iff (one_sub_mul_I_ne_zero _), toC_eq]
  simp only [cayley]
  push_cast
  field_simp
  linear_combination (-2 * (t : ℂ) ^ 2) * I_sq

theorem norm_toC_cayley (t : ℚ) : ‖toC (cayley t)‖ = 1 := by
  rw [cayley_spec, norm_cayleyC]

theorem evalFD_spec (W : ℂ) (hW : W ≠ 0) (w2 : CQ) (h2 : toC w2 = W ^ 2) (cs : List CQ) :
    ∀ (d : ℤ) (p : CQ), toC p = W ^ d →
      toC (evalFD w2 cs d p).1 = FW (cs.map toC) d W ∧
      toC (evalFD w2 cs d p).2 = DW (cs.map toC) d W := by
  induction cs with
  | nil =>
    intro d p _
    have h0 : toC (0, 0) = 0 := Complex.ext Rat.cast_zero Rat.cast_zero
    exact ⟨h0, h0⟩
  | cons c cs ih =>
    intro d p hp
    have hp2 : toC (p.mul w2) = W ^ (d + 2) := by
      rw [toC_mul, hp, h2, zpow_add₀ hW]; norm_cast
    obtain ⟨i1, i2⟩ := ih (d + 2) (p.mul w2) hp2
    simp only [evalFD, List.map_cons, FW, DW, toC_add, toC_mul, toC_smul, i1, i2, hp,
      Rat.cast_intCast, Complex.ofReal_intCast, and_self]

theorem evalCayley_eq (cs : List CQ) (d : ℤ) (t : ℚ) :
    toC (evalCayley cs d t).1 = FW (cs.map toC) d (cayleyC t) ∧
    toC (evalCayley cs d t).2 = DW (cs.map toC) d (cayleyC t) := by
  unfold evalCayley
  apply evalFD_spec _ (cayleyC_ne_zero _)
  · rw [toC_mul, cayley_spec, sq]
  · rw [toC_zpowU _ (norm_toC_cayley t), cayley_spec]

theorem evalCayley_spec (cs : List CQ) (d : ℤ) (t : ℚ) :
    toC (evalCayley cs d t).1 = FW (cs.map toC) d (cayleyC t) :=
  (evalCayley_eq cs d t).1

theorem normSq_spec (a : CQ) : ((a.normSq : ℚ) : ℝ) = ‖toC a‖ ^ 2 := by
  rw [Complex.sq_norm, Complex.normSq_apply]; simp [CQ.normSq]

theorem qabs_eq (x : ℚ) : qabs x = |x| := by
  unfold qabs
  split
  · rename_i h; rw [abs_of_neg h]
  · rename_i h; rw [abs_of_nonneg (not_lt.mp h)]

theorem norm_toC_le_abs1 (a : CQ) : ‖toC a‖ ≤ ((a.abs1 : ℚ) : ℝ) := by
  refine (Complex.norm_le_abs_re_add_abs_im _).trans ?_
  simp [CQ.abs1, qabs_eq]

/-- the model's constant `2 supL1 + 4 supM2`: per term `2 |k| + 4 |k| (|k| - 1) / 2 = 2 k²` -/
theorem Kw_le_sup (cs : List CQ) (d : ℤ) :
    Kw (cs.map toC) d ≤ ((2 * supL1 cs d + 4 * supM2 cs d : ℚ) : ℝ) := by
  induction cs generalizing d with
  | nil => simp [Kw, supL1, supM2]
  | cons c cs ih =>
    have ih' := ih (d + 2)
    simp only [List.map_cons, Kw, supL1, supM2, qabs_eq]
    push_cast at ih' ⊢
    have h1 := mul_le_mul_of_nonneg_right (norm_toC_le_abs1 c)
      (mul_nonneg zero_le_two (sq_nonneg (d : ℝ)))
    refine (add_le_add h1 ih').trans_eq ?_
    rw [← sq_abs (d : ℝ)]
    ring

/-! ## Soundness of the bisection certificate -/

/-- one cell of the bisection, over the reals: the second-order bound around `cayleyC m` covers
    every `t ≥ 0` with `|t - m| ≤ r`, since `cayleyC t = cayleyC m * cayleyC s` with
    `|s| = |t - m| / (1 + t m) ≤ r` -/
theorem FW_cell (cs : List ℂ) (d : ℤ) {m t r A K F : ℝ} (hm : 0 ≤ m) (ht : 0 ≤ t)
    (htm : |t - m| ≤ r) (hF : ‖FW cs d (cayleyC m)‖ ≤ F) (hD : ‖DW cs d (cayleyC m)‖ ≤ A)
    (hK : Kw cs d ≤ K) :
    ‖FW cs d (cayleyC t)‖ ≤ F + (2 * r * A + r * r * K) := by
  have hq : 0 < 1 + t * m := add_pos_of_pos_of_nonneg one_pos (mul_nonneg ht hm)
  have hsr := (abs_cayley_arg_le t m ht hm).trans htm
  have hs2 : ((t - m) / (1 + t * m)) ^ 2 ≤ r * r := by
    rw [← sq_abs, ← sq]; exact pow_le_pow_left₀ (abs_nonneg _) hsr 2
  have hmain := norm_FW_mul_cayleyC_le cs d (cayleyC m) (norm_cayleyC m) ((t - m) / (1 + t * m))
  rw [← cayleyC_mul t m hq] at hmain
  have t1 := mul_le_mul (mul_le_mul_of_nonneg_left hsr zero_le_two) hD (norm_nonneg _)
    (mul_nonneg zero_le_two ((abs_nonneg _).trans hsr))
  have t2 := mul_le_mul hs2 hK (Kw_nonneg cs d) (mul_self_nonneg r)
  exact hmain.trans ((add_le_add (add_le_add hF t1) t2).trans_eq (add_assoc _ _ _))

/-- `h1`, `h2` are the test `supLeAux` makes on the cell of midpoint `m` and radius `r` -/
theorem cell_sound (cs : List CQ) (d : ℤ) (B K m r : ℚ) (hm : 0 ≤ m)
    (hK : Kw (cs.map toC) d ≤ ((K : ℚ) : ℝ))
    (h1 : 2 * r * (evalCayley cs d m).2.abs1 + r * r * K ≤ B)
    (h2 : (evalCayley cs d m).1.normSq
      ≤ (B - (2 * r * (evalCayley cs d m).2.abs1 + r * r * K))
        * (B - (2 * r * (evalCayley cs d m).2.abs1 + r * r * K)))
    (t : ℝ) (ht : 0 ≤ t) (htm : |t - (m : ℝ)| ≤ (r : ℝ)) :
    ‖FW (cs.map toC) d (cayleyC t)‖ ≤ (B : ℝ) := by
  obtain ⟨e1, e2⟩ := evalCayley_eq cs d m
  have hF : ‖FW (cs.map toC) d (cayleyC m)‖
      ≤ ((B - (2 * r * (evalCayley cs d m).2.abs1 + r * r * K) : ℚ) : ℝ) := by
    refine abs_le_of_sq_le_sq' ?_ (by exact_mod_cast sub_nonneg.mpr h1) |>.2
    rw [← e1, ← normSq_spec, sq]
    exact_mod_cast h2
  have := FW_cell (cs.map toC) d (Rat.cast_nonneg.mpr hm) ht htm hF
    (e2 ▸ norm_toC_le_abs1 _) hK
  push_cast at this
  linarith

theorem cell_cover (lo hi : ℚ) (t : ℝ) (h1 : (lo : ℝ) ≤ t) (h2 : t ≤ (hi : ℝ)) :
    |t - (((lo + hi) / 2 : ℚ) : ℝ)| ≤ (((hi - lo) / 2 : ℚ) : ℝ) := by
  push_cast
  rw [abs_le]; constructor <;> linarith

theorem supLeAux_accepts {cs : List CQ} {d : ℤ} {B K : ℚ} {depth : ℕ} {lo hi : ℚ}
    (h : (supLeAux cs d B K depth lo hi).1 = true) :
    let m := (lo + hi) / 2
    let r := (hi - lo) / 2
    let fd := evalCayley cs d m
    let slack := 2 * r * fd.2.abs1 + r * r * K
    (slack ≤ B ∧ fd.1.normSq ≤ (B - slack) * (B - slack)) ∨
      ∃ n, depth = n + 1 ∧ (supLeAux cs d B K n lo m).1 = true ∧
        (supLeAux cs d B K n m hi).1 = true := by
  unfold supLeAux at h
  dsimp only at h ⊢
  split at h
  · rename_i hc
    rw [Bool.and_eq_true, decide_eq_true_eq, decide_eq_true_eq] at hc
    exact Or.inl hc
  · split at h
    · cases h
    · split at h
      · cases h
      · rename_i n
        split at h
        · rename_i ha
          exact Or.inr ⟨n, rfl, ha, h⟩
        · cases h

theorem supLeAux_sound (cs : List CQ) (d : ℤ) (B K : ℚ)
    (hK : Kw (cs.map toC) d ≤ ((K : ℚ) : ℝ)) (depth : ℕ) :
    ∀ lo hi : ℚ, 0 ≤ lo → 0 ≤ hi → (supLeAux cs d B K depth lo hi).1 = true →
      ∀ t : ℝ, (lo : ℝ) ≤ t → t ≤ (hi : ℝ) → ‖FW (cs.map toC) d (cayleyC t)‖ ≤ (B : ℝ) := by
  -- the recursion goes from `n + 1` to `n` only; strong induction lets the accepting cell, which
  -- occurs at every depth, be treated once
  induction depth using Nat.strong_induction_on with
  | _ depth ih =>
    intro lo hi hlo hhi h t ht1 ht2
    have hm : (0 : ℚ) ≤ (lo + hi) / 2 := by positivity
    rcases supLeAux_accepts h with ⟨h1, h2⟩ | ⟨n, rfl, ha, hb⟩
    · exact cell_sound cs d B K _ _ hm hK h1 h2 t ((Rat.cast_nonneg.mpr hlo).trans ht1)
        (cell_cover lo hi t ht1 ht2)
    · rcases le_total t (((lo + hi) / 2 : ℚ) : ℝ) with htm | htm
      · exact ih n n.lt_succ_self lo _ hlo hm ha t ht1 htm
      · exact ih n n.lt_succ_self _ hi hm hhi hb t htm ht2

theorem supLeQ_sound (cs : List CQ) (d : ℤ) (B : ℚ) (depth : ℕ)
    (h : (supLeQ cs d B depth).1 = true) :
    ∀ t : ℝ, 0 ≤ t → t ≤ 1 → ‖FW (cs.map toC) d (cayleyC t)‖ ≤ (B : ℝ) := by
  intro t ht0 ht1
  unfold supLeQ at h
  split at h
  · simp at h
  · refine supLeAux_sound cs d B _ (Kw_le_sup cs d) depth 0 1 le_rfl zero_le_one h t ?_ ?_
    · simpa using ht0
    · simpa using ht1

/-! ## From the first quadrant to the whole circle -/

theorem FW_neg (cs : List ℂ) (d : ℤ) (w : ℂ) : FW cs d (-w) = (-1) ^ d * FW cs d w := by
  induction cs generalizing d with
  | nil => simp [FW]
  | cons c cs ih =>
    simp only [FW]
    have h2 : ((-1 : ℂ)) ^ (d + 2) = (-1) ^ d := by
      rw [zpow_add₀ (by norm_num : (-1 : ℂ) ≠ 0)]; norm_num
    rw [ih, h2, ← neg_one_mul w, mul_zpow]; ring

theorem norm_FW_neg (cs : List ℂ) (d : ℤ) (w : ℂ) : ‖FW cs d (-w)‖ = ‖FW cs d w‖ := by
  rw [FW_neg, norm_mul, norm_zpow, norm_neg, norm_one, one_zpow, one_mul]

theorem FW_conj (cs : List ℂ) (d : ℤ) (w : ℂ) :
    FW cs d ((starRingEnd ℂ) w) = (starRingEnd ℂ) (FW (cs.map (starRingEnd ℂ)) d w) := by
  induction cs generalizing d with
  | nil => simp [FW]
  | cons c cs ih =>
    simp only [FW, List.map_cons, map_add, map_mul, Complex.conj_conj, ih, map_zpow₀]

theorem norm_FW_conj (cs : List ℂ) (d : ℤ) (w : ℂ) :
    ‖FW cs d ((starRingEnd ℂ) w)‖ = ‖FW (cs.map (starRingEnd ℂ)) d w‖ := by
  rw [FW_conj, Complex.norm_conj]

theorem FW_lin2 (α β : ℂ) (a b : List ℂ) (hlen : a.length = b.length) (d : ℤ) (w : ℂ) :
    FW (List.zipWith (fun x y : ℂ => α * x + β * y) a b) d w = α * FW a d w + β * FW b d w := by
  induction a generalizing b d with
  | nil =>
    cases b with
    | nil => simp [FW]
    | cons y b => simp at hlen
  | cons x a ih =>
    cases b with
    | nil => simp at hlen
    | cons y b =>
      simp only [List.length_cons, add_left_inj] at hlen
      simp only [List.zipWith_cons_cons, FW, ih b hlen]
      ring

theorem circle_of_quadrant (cs : List ℂ) (d : ℤ) (B : ℝ)
    (h1 : ∀ w : ℂ, ‖w‖ = 1 → 0 ≤ w.re → 0 ≤ w.im → ‖FW cs d w‖ ≤ B)
    (h2 : ∀ w : ℂ, ‖w‖ = 1 → 0 ≤ w.re → 0 ≤ w.im → ‖FW (cs.map (starRingEnd ℂ)) d w‖ ≤ B) :
    ∀ w : ℂ, ‖w‖ = 1 → ‖FW cs d w‖ ≤ B := by
  intro w hw
  rcases le_total 0 w.re with hx | hx <;> rcases le_total 0 w.im with hy | hy
  · exact h1 w hw hx hy
  · have := h2 ((starRingEnd ℂ) w) (by rwa [Complex.norm_conj]) (by simpa using hx)
      (by simpa using hy)
    rwa [← norm_FW_conj, Complex.conj_conj] at this
  · have := h2 (-(starRingEnd ℂ) w) (by rwa [norm_neg, Complex.norm_conj]) (by simpa using hx)
      (by simpa using hy)
    rwa [norm_FW_neg, ← norm_FW_conj, Complex.conj_conj] at this
  · have := h1 (-w) (by rwa [norm_neg]) (by simpa using hx) (by simpa using hy)
    rwa [norm_FW_neg] at this

theorem map_toC_conj (cs : List CQ) :
    (cs.map CQ.conj).map toC = (cs.map toC).map (starRingEnd ℂ) := by
  simp only [List.map_map, Function.comp_def, toC_conj]

theorem quadrant_of_param (cs : List ℂ) (d : ℤ) (B : ℝ)
    (h : ∀ t : ℝ, 0 ≤ t → t ≤ 1 → ‖FW cs d (cayleyC t)‖ ≤ B) :
    ∀ w : ℂ, ‖w‖ = 1 → 0 ≤ w.re → 0 ≤ w.im → ‖FW cs d w‖ ≤ B := by
  intro w hw hx hy
  obtain ⟨t, t0, t1, rfl⟩ := quadrant_param w hw hx hy
  exact h t t0 t1

theorem supLeC_sound (cs : List CQ) (d : ℤ) (B : ℚ) (depth : ℕ)
    (h : (supLeC cs d B depth).1 = true) :
    ∀ w : ℂ, ‖w‖ = 1 → ‖FW (cs.map toC) d w‖ ≤ (B : ℝ) := by
  unfold supLeC at h
  dsimp only at h
  split at h
  · rename_i ha
    apply circle_of_quadrant
    · exact quadrant_of_param _ _ _ (supLeQ_sound cs d B depth ha)
    · rw [← map_toC_conj]
      exact quadrant_of_param _ _ _ (supLeQ_sound _ d B depth h)
  · rename_i ha; exact absurd h ha

theorem map_toC_real (cs : List ℚ) :
    (cs.map (fun c => ((c, 0) : CQ))).map toC = cs.map (fun q => (((q : ℚ) : ℝ) : ℂ)) := by
  simp only [List.map_map, Function.comp_def, toC_eq, Rat.cast_zero, Complex.ofReal_zero, zero_mul,
    add_zero]

theorem map_conj_real (cs : List ℚ) :
    (cs.map (fun q => (((q : ℚ) : ℝ) : ℂ))).map (starRingEnd ℂ)
      = cs.map (fun q => (((q : ℚ) : ℝ) : ℂ)) := by
  simp only [List.map_map, Function.comp_def, Complex.conj_ofReal]

theorem supLeReal_sound (cs : List ℚ) (d : ℤ) (B : ℚ) (depth : ℕ)
    (h : (supLeReal cs d B depth).1 = true) :
    ∀ w : ℂ, ‖w‖ = 1 → ‖FW (cs.map (fun q => (((q : ℚ) : ℝ) : ℂ))) d w‖ ≤ (B : ℝ) := by
  unfold supLeReal at h
  have hq := quadrant_of_param _ _ _ (supLeQ_sound _ d B depth h)
  rw [map_toC_real] at hq
  apply circle_of_quadrant
  · exact hq
  · rw [map_conj_real]; exact hq

end QSP
