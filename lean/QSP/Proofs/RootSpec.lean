/-
  The specification of the root finder in `_fg_completion` is satisfiable (properties C03c, C03d).

  * A self-reciprocal complex polynomial of degree `2n` with non-zero constant term and no root on
    the unit circle is `lead · ∏_{s ∈ S} (X - s)(X - 1/s)` for a list `S` of `n` points of the open
    punctured unit disc (`exists_recipProd`).  Induction on `n`: split off a root pair `{r, 1/r}`;
    the quotient is again self-reciprocal (`Polynomial.reverse` is multiplicative over a domain).
  * `feasPoly A n = X^n - A · A.reverse`, which is `z^n (1 - F F~)` in `z = w²` for
    `A = Σ_j F_j z^j`, is such a polynomial whenever `A` has degree `n ≥ 1`, `A(0) ≠ 0`, and on the
    unit circle `A(1/z) = conj A(z)` and `|A(z)| < 1` (`feas_root_spec`).
  * `A = polyL F` is such an `A` for every real list `F` with 1-norm `< 1` and non-zero extreme
    coefficients (`feasible_root_spec`).
-/
import QSP.Proofs.Completion
import Mathlib.Analysis.Complex.Polynomial.Basic
open Polynomial
namespace QSP
namespace RootSpec

/-! ### self-reciprocal polynomials split into root pairs -/

theorem ne_zero_of_coeff_zero {p : ℂ[X]} (h0 : p.coeff 0 ≠ 0) : p ≠ 0 := by
  rintro rfl
  exact h0 (coeff_zero 0)

theorem reverse_natDegree_of_coeff_zero {p : ℂ[X]} (h0 : p.coeff 0 ≠ 0) :
    p.reverse.natDegree = p.natDegree := by
  rw [reverse_natDegree, natTrailingDegree_eq_zero.mpr (Or.inr h0), Nat.sub_zero]

theorem reverse_eq_self_of_coeff {p : ℂ[X]} {N : ℕ} (hd : p.natDegree = N)
    (hsym : ∀ k ≤ N, p.coeff k = p.coeff (N - k)) : p.reverse = p := by
  ext k
  rw [coeff_reverse, hd]
  by_cases hk : k ≤ N
  · rw [revAt_le hk, ← hsym k hk]
  · rw [revAt_eq_self_of_lt (not_le.mp hk)]

theorem reverse_pair (r : ℂ) (hr : r ≠ 0) :
    ((X - C r) * (X - C r⁻¹) : ℂ[X]).reverse = (X - C r) * (X - C r⁻¹) := by
  rw [reverse_mul_of_domain, reverse_X_sub_C, reverse_X_sub_C]
  linear_combination (X ^ 2 - 1) * C_mul_C_inv hr

theorem isRoot_inv {p : ℂ[X]} (hrev : p.reverse = p) {r : ℂ} (hr : r ≠ 0) (h : p.IsRoot r) :
    p.IsRoot r⁻¹ := by
  have := eval_reverse p (inv_ne_zero hr)
  rwa [hrev, inv_inv, h.eq_zero, mul_zero] at this

theorem split_pair {p q : ℂ[X]} {r : ℂ} (hr : r ≠ 0) (hp0 : p ≠ 0) (hrev : p.reverse = p)
    (hpq : p = (X - C r) * (X - C r⁻¹) * q) :
    q.natDegree + 2 = p.natDegree ∧ q.reverse = q ∧ q.leadingCoeff = p.leadingCoeff := by
  obtain ⟨hm, hd⟩ := monic_natDegree_mul (monic_natDegree_X_sub_C r) (monic_natDegree_X_sub_C r⁻¹)
  have hq0 : q ≠ 0 := by rintro rfl; exact hp0 (by rw [hpq, mul_zero])
  refine ⟨?_, ?_, ?_⟩
  · rw [hpq, hm.natDegree_mul' hq0, hd, add_comm]
  · have := congrArg reverse hpq
    rw [reverse_mul_of_domain, reverse_pair r hr, hrev] at this
    exact (mul_left_cancel₀ hm.ne_zero (hpq.symm.trans this)).symm
  · rw [hpq, leadingCoeff_monic_mul hm]

theorem exists_root_inside {p : ℂ[X]} (hdeg : 0 < p.degree) (hrev : p.reverse = p)
    (h0 : p.coeff 0 ≠ 0) (hunit : ∀ z : ℂ, ‖z‖ = 1 → p.eval z ≠ 0) :
    ∃ r : ℂ, p.IsRoot r ∧ r ≠ 0 ∧ ‖r‖ < 1 := by
  obtain ⟨r, hr⟩ := Complex.exists_root hdeg
  have hr0 : r ≠ 0 := by rintro rfl; exact h0 (by rwa [coeff_zero_eq_eval_zero])
  rcases lt_trichotomy ‖r‖ 1 with h | h | h
  · exact ⟨r, hr, hr0, h⟩
  · exact absurd hr (hunit r h)
  · exact ⟨r⁻¹, isRoot_inv hrev hr0 hr, inv_ne_zero hr0,
      by rw [norm_inv]; exact inv_lt_one_of_one_lt₀ h⟩

/-- a root `r` inside the circle differs from `1/r`, so both linear factors divide -/
theorem pair_dvd {p : ℂ[X]} (hrev : p.reverse = p) {r : ℂ} (hr0 : r ≠ 0) (hr1 : ‖r‖ < 1)
    (hr : p.IsRoot r) : (X - C r) * (X - C r⁻¹) ∣ p := by
  have hlt : ‖r‖ < ‖r⁻¹‖ := by
    rw [norm_inv]; exact hr1.trans ((one_lt_inv₀ (norm_pos_iff.mpr hr0)).mpr hr1)
  have hne : r - r⁻¹ ≠ 0 := sub_ne_zero.mpr fun h => hlt.ne (congrArg norm h)
  exact (isCoprime_X_sub_C_of_isUnit_sub hne.isUnit).mul_dvd (dvd_iff_isRoot.mpr hr)
    (dvd_iff_isRoot.mpr (isRoot_inv hrev hr0 hr))

theorem exists_recipProd (n : ℕ) (p : ℂ[X]) (hd : p.natDegree = 2 * n) (hrev : p.reverse = p)
    (h0 : p.coeff 0 ≠ 0) (hunit : ∀ z : ℂ, ‖z‖ = 1 → p.eval z ≠ 0) :
    ∃ S : List ℂ, S.length = n ∧ (∀ s ∈ S, s ≠ 0 ∧ ‖s‖ < 1) ∧
      p = C p.leadingCoeff * recipProd S := by
  induction n generalizing p with
  | zero =>
    refine ⟨[], rfl, by simp, ?_⟩
    rw [leadingCoeff, hd, recipProd, List.map_nil, List.prod_nil, mul_one]
    exact eq_C_of_natDegree_eq_zero hd
  | succ n ih =>
    have hp0 := ne_zero_of_coeff_zero h0
    obtain ⟨r, hr, hrne, hr1⟩ :=
      exists_root_inside (natDegree_pos_iff_degree_pos.mp (by omega)) hrev h0 hunit
    obtain ⟨q, hpq⟩ := pair_dvd hrev hrne hr1 hr
    obtain ⟨hqd, hqrev, hlead⟩ := split_pair hrne hp0 hrev hpq
    obtain ⟨S, hl, hS, hqS⟩ := ih q (by omega) hqrev
      (fun h => h0 (by rw [hpq, mul_coeff_zero, h, mul_zero]))
      (fun z hz h => hunit z hz (by rw [hpq, eval_mul, h, mul_zero]))
    refine ⟨r :: S, by rw [List.length_cons, hl], List.forall_mem_cons.mpr ⟨⟨hrne, hr1⟩, hS⟩, ?_⟩
    rw [← hlead, recipProd_cons, mul_left_comm, ← hqS, hpq]

/-! ### the feasibility polynomial `X^n - A · A.reverse` meets these hypotheses -/

/-- `z^n (1 - F F~)` as a polynomial in `z = w²` -/
noncomputable def feasPoly (A : ℂ[X]) (n : ℕ) : ℂ[X] := X ^ n - A * A.reverse

section
variable (A : ℂ[X]) (n : ℕ)

theorem feas_natDegree (hn : 1 ≤ n) (hd : A.natDegree = n) (h0 : A.coeff 0 ≠ 0) :
    (feasPoly A n).natDegree = 2 * n := by
  have hA := ne_zero_of_coeff_zero h0
  have hm : (A * A.reverse).natDegree = 2 * n := by
    rw [natDegree_mul hA (reverse_eq_zero.not.mpr hA), reverse_natDegree_of_coeff_zero h0, hd,
      two_mul]
  rw [feasPoly, natDegree_sub_eq_right_of_natDegree_lt (by rw [natDegree_X_pow, hm]; omega), hm]

theorem feas_coeff_zero (hn : 1 ≤ n) : (feasPoly A n).coeff 0 = -(A.coeff 0 * A.leadingCoeff) := by
  rw [feasPoly, coeff_sub, mul_coeff_zero, coeff_zero_reverse, coeff_X_pow, if_neg (by omega),
    zero_sub]

theorem feas_coeff_zero_ne (hn : 1 ≤ n) (h0 : A.coeff 0 ≠ 0) : (feasPoly A n).coeff 0 ≠ 0 := by
  rw [feas_coeff_zero A n hn]
  exact neg_ne_zero.mpr (mul_ne_zero h0 (leadingCoeff_ne_zero.mpr (ne_zero_of_coeff_zero h0)))

theorem feas_reverse (hn : 1 ≤ n) (hd : A.natDegree = n) (h0 : A.coeff 0 ≠ 0) :
    (feasPoly A n).reverse = feasPoly A n := by
  -- reflecting at `2n` fixes `X^n` and, being multiplicative with the degrees `n + n`, swaps the
  -- factors `A` and `A.reverse` (each the reflection of the other at `n`)
  have hrA : reflect n A = A.reverse := by rw [reverse, hd]
  have hrB : reflect n A.reverse = A := by rw [← hrA, reflect_reflect]
  rw [reverse, feas_natDegree A n hn hd h0, feasPoly, reflect_sub, reflect_monomial,
    revAt_le (by omega), two_mul,
    reflect_mul A A.reverse hd.le (hd ▸ (reverse_natDegree_of_coeff_zero h0).le), hrA, hrB,
    Nat.add_sub_cancel, mul_comm]

theorem feas_eval (hd : A.natDegree = n)
    (hinv : ∀ z : ℂ, ‖z‖ = 1 → A.eval z⁻¹ = (starRingEnd ℂ) (A.eval z))
    (z : ℂ) (hz : ‖z‖ = 1) :
    (feasPoly A n).eval z = z ^ n * (1 - ((‖A.eval z‖ ^ 2 : ℝ) : ℂ)) := by
  have hz0 : z ≠ 0 := by rintro rfl; simp at hz
  rw [feasPoly, eval_sub, eval_mul, eval_pow, eval_X, eval_reverse A hz0, hd, hinv z hz,
    Complex.ofReal_pow, ← Complex.mul_conj']
  ring

theorem feas_no_unit_root (hd : A.natDegree = n)
    (hinv : ∀ z : ℂ, ‖z‖ = 1 → A.eval z⁻¹ = (starRingEnd ℂ) (A.eval z))
    (hsup : ∀ z : ℂ, ‖z‖ = 1 → ‖A.eval z‖ < 1) (z : ℂ) (hz : ‖z‖ = 1) :
    (feasPoly A n).eval z ≠ 0 := by
  have hz0 : z ≠ 0 := by rintro rfl; simp at hz
  rw [feas_eval A n hd hinv z hz]
  refine mul_ne_zero (pow_ne_zero _ hz0) ?_
  have : ‖A.eval z‖ ^ 2 < 1 := pow_lt_one₀ (norm_nonneg _) (hsup z hz) two_ne_zero
  rw [sub_ne_zero, Ne, eq_comm, Complex.ofReal_eq_one]
  exact this.ne

theorem feas_root_spec (hn : 1 ≤ n) (hd : A.natDegree = n) (h0 : A.coeff 0 ≠ 0)
    (hinv : ∀ z : ℂ, ‖z‖ = 1 → A.eval z⁻¹ = (starRingEnd ℂ) (A.eval z))
    (hsup : ∀ z : ℂ, ‖z‖ = 1 → ‖A.eval z‖ < 1) :
    ∃ S : List ℂ, S.length = n ∧ (∀ s ∈ S, s ≠ 0 ∧ ‖s‖ < 1) ∧
      feasPoly A n = C (feasPoly A n).leadingCoeff * recipProd S :=
  exists_recipProd n (feasPoly A n) (feas_natDegree A n hn hd h0) (feas_reverse A n hn hd h0)
    (feas_coeff_zero_ne A n hn h0) (feas_no_unit_root A n hd hinv hsup)

end

/-! ### real coefficient lists -/

/-- `A = Σ_j F_j X^j` in `z = w²` for the real coefficient list of `F(w)` -/
noncomputable def polyL : List ℝ → ℂ[X]
  | [] => 0
  | c :: cs => C (c : ℂ) + X * polyL cs

/-- the coefficient 1-norm `Σ_j |F_j|` (the recursion of `l1R` in `Proofs/EvalC.lean`) -/
def l1P : List ℝ → ℝ
  | [] => 0
  | c :: cs => |c| + l1P cs

theorem polyL_inv (F : List ℝ) (z : ℂ) (hz : ‖z‖ = 1) :
    (polyL F).eval z⁻¹ = (starRingEnd ℂ) ((polyL F).eval z) := by
  rw [Complex.inv_eq_conj hz]
  induction F with
  | nil => simp [polyL]
  | cons c cs ih =>
    simp only [polyL, eval_add, eval_C, eval_mul, eval_X, ih, map_add, map_mul, Complex.conj_ofReal]

theorem polyL_norm (F : List ℝ) (z : ℂ) (hz : ‖z‖ = 1) : ‖(polyL F).eval z‖ ≤ l1P F := by
  induction F with
  | nil => simp [polyL, l1P]
  | cons c cs ih =>
    simp only [polyL, eval_add, eval_C, eval_mul, eval_X, l1P]
    refine (norm_add_le _ _).trans (add_le_add ?_ ?_)
    · rw [Complex.norm_real, Real.norm_eq_abs]
    · rw [norm_mul, hz, one_mul]; exact ih

theorem polyL_coeff_zero (c : ℝ) (cs : List ℝ) : (polyL (c :: cs)).coeff 0 = (c : ℂ) := by
  simp [polyL]

theorem polyL_natDegree : ∀ (F : List ℝ) (hne : F ≠ []), F.getLast hne ≠ 0 →
    polyL F ≠ 0 ∧ (polyL F).natDegree = F.length - 1
  | [], hne, _ => absurd rfl hne
  | [c], _, h => by
    have hc : (c : ℂ) ≠ 0 := by simpa using h
    simp [polyL, hc]
  | c :: d :: ds, _, h => by
    obtain ⟨hQ, hdQ⟩ := polyL_natDegree (d :: ds) (by simp) (by simpa using h)
    have hd : (polyL (c :: d :: ds)).natDegree = (d :: ds).length := by
      show (C (c : ℂ) + X * polyL (d :: ds)).natDegree = _
      rw [add_comm, natDegree_add_C, natDegree_X_mul hQ, hdQ]; simp
    exact ⟨ne_zero_of_natDegree_gt (n := 0) (by rw [hd]; exact Nat.succ_pos _), hd⟩

theorem feasible_root_spec (F : List ℝ) (n : ℕ) (hlen : F.length = n + 1) (hn : 1 ≤ n)
    (hl1 : l1P F < 1) (hne : F ≠ []) (hh : F.head hne ≠ 0) (hl : F.getLast hne ≠ 0) :
    ∃ S : List ℂ, S.length = n ∧ (∀ s ∈ S, s ≠ 0 ∧ ‖s‖ < 1) ∧
      feasPoly (polyL F) n = C (feasPoly (polyL F) n).leadingCoeff * recipProd S := by
  have hd : (polyL F).natDegree = n := by rw [(polyL_natDegree F hne hl).2, hlen]; simp
  have h0 : (polyL F).coeff 0 ≠ 0 := by
    cases F with
    | nil => exact absurd rfl hne
    | cons c cs => rw [polyL_coeff_zero]; simpa using hh
  exact feas_root_spec (polyL F) n hn hd h0 (polyL_inv F)
    (fun z hz => lt_of_le_of_lt (polyL_norm F z hz) hl1)

end RootSpec
end QSP
