/-
  The exactly computed rational model values on the unit circle: `evQ p θ` is the value of a model
  polynomial at `e^{iθ}`, `evMat g θ` the matrix of a Low-algebra element there, and the element
  computed by `LA.fromAngles` is the ordered product of X-rotations and diagonal signal matrices at
  every point of the circle (`fromAngles_eval`); `UcircPairs` is that product over arbitrary complex
  pairs (`fromAngles_eval_pairs`), as a uniform `List.prod` in `UcircPairs_eq_prod`.
-/
import QSP.Proofs.EvalC
import QSP.Proofs.LAlg
import QSP.Proofs.L2Kit
import Mathlib.LinearAlgebra.Matrix.Notation
import Mathlib.Tactic.LinearCombination

open LaurentPolynomial Complex Matrix
namespace QSP

/-- the value of a model polynomial at `e^{iθ}`, read off its stored coefficients -/
noncomputable def evQ (p : LP ℚ) (θ : ℝ) : ℂ :=
  FW (p.coefs.map (fun q : ℚ => ((q : ℝ) : ℂ))) p.dmin (exp ((θ : ℂ) * I))

/-- the matrix `[[A(w), i B(w)], [i B(w⁻¹), A(w⁻¹)]]`, `w = e^{iθ}`, of the Low-algebra element
    `A + B·iX` -/
noncomputable def evMat (g : LA ℚ) (θ : ℝ) : Matrix (Fin 2) (Fin 2) ℂ :=
  !![evQ g.I θ, I * evQ g.X θ; I * evQ g.X (-θ), evQ g.I (-θ)]

/-! ### the evaluation ring homomorphism `ℚ[T;T⁻¹] →+* ℂ` -/

/-- evaluation of a rational Laurent polynomial at `e^{iθ}` (`evQ p θ = evalQ θ (den p)`: `evQ_eq`) -/
noncomputable def evalQ (θ : ℝ) : ℚ[T;T⁻¹] →+* ℂ :=
  LaurentPolynomial.eval₂ ((algebraMap ℝ ℂ).comp (Rat.castHom ℝ)) (circ θ)

theorem evalQ_C (θ : ℝ) (q : ℚ) : evalQ θ (C q) = ((q : ℝ) : ℂ) := by
  simp [evalQ, eval₂_C]

theorem evalQ_T (θ : ℝ) (k : ℤ) : evalQ θ (T k) = exp ((θ : ℂ) * I) ^ k := by
  simp only [evalQ, eval₂_T]
  rw [Units.val_zpow_eq_zpow_val]
  rfl

theorem evalQ_denL (θ : ℝ) (cs : List ℚ) (d : ℤ) :
    evalQ θ (denL cs d) = FW (cs.map (fun q : ℚ => ((q : ℝ) : ℂ))) d (exp ((θ : ℂ) * I)) :=
  eval₂_denL _ _ cs d

theorem evQ_eq (p : LP ℚ) (θ : ℝ) : evQ p θ = evalQ θ (den p) := by
  rw [den, evalQ_denL]; rfl

theorem evQ_mk' (p : List ℚ) (d : ℤ) (θ : ℝ) :
    evQ (LP.mk' p d) θ = FW (p.map (fun q : ℚ => ((q : ℝ) : ℂ))) d (exp ((θ : ℂ) * I)) := by
  rw [evQ_eq, den_mk', evalQ_denL]

theorem exp_neg_theta (θ : ℝ) : exp (((-θ : ℝ) : ℂ) * I) = (exp ((θ : ℂ) * I))⁻¹ := by
  rw [← Complex.exp_neg]
  congr 1
  push_cast
  ring

theorem evalQ_invert (θ : ℝ) (f : ℚ[T;T⁻¹]) : evalQ θ (invert f) = evalQ (-θ) f := by
  rw [evalQ, eval₂_invert, ← circ_neg]; rfl

theorem evQ_eq_evalC (p : LP ℚ) (θ : ℝ) :
    evQ p θ = evalC θ (denL (p.coefs.map (fun q : ℚ => (q : ℝ))) p.dmin) := by
  rw [evalC_denL_cast_eq_FW]; rfl

/-! ### the ring operations of `LP ℚ` under evaluation -/

theorem evQ_mul (p q : LP ℚ) (hp : p.WF) (hq : q.WF) (θ : ℝ) :
    evQ (p.mul q) θ = evQ p θ * evQ q θ := by
  rw [evQ_eq, evQ_eq, evQ_eq, (den_mul p q hp hq).1, map_mul]

theorem evQ_inv (p : LP ℚ) (hp : p.WF) (θ : ℝ) : evQ p.inv θ = evQ p (-θ) := by
  rw [evQ_eq, evQ_eq, (den_inv p hp).1, evalQ_invert]

theorem evQ_neg (p : LP ℚ) (hp : p.WF) (θ : ℝ) : evQ p.neg θ = - evQ p θ := by
  rw [evQ_eq, evQ_eq, (den_neg p hp).1, map_neg]

theorem evQ_smul (c : ℚ) (p : LP ℚ) (hp : p.WF) (θ : ℝ) :
    evQ (LP.smul c p) θ = ((c : ℝ) : ℂ) * evQ p θ := by
  rw [evQ_eq, evQ_eq, (den_smul c p hp).1, map_mul, evalQ_C]

theorem evQ_add {p q r : LP ℚ} (hp : p.WF) (hq : q.WF) (h : p.add q = .ok r) (θ : ℝ) :
    evQ r θ = evQ p θ + evQ q θ := by
  rw [evQ_eq, evQ_eq, evQ_eq, (add_ok hp hq h).1, map_add]

theorem evQ_sub {p q r : LP ℚ} (hp : p.WF) (hq : q.WF) (h : p.sub q = .ok r) (θ : ℝ) :
    evQ r θ = evQ p θ - evQ q θ := by
  rw [evQ_eq, evQ_eq, evQ_eq, (sub_ok hp hq h).1, map_sub]

theorem evQ_const (c : ℚ) (θ : ℝ) : evQ (LP.mk' [c] 0) θ = ((c : ℝ) : ℂ) := by
  rw [evQ_eq, den_const, evalQ_C]

theorem evQ_w (θ : ℝ) : evQ (LP.w : LP ℚ) θ = exp ((θ : ℂ) * I) := by
  rw [evQ_eq, den_w, evalQ_T, zpow_one]

theorem evQ_zero (θ : ℝ) : evQ (LP.zero : LP ℚ) θ = 0 := by
  rw [evQ_eq, den_zero.1, map_zero]

theorem evQ_one (θ : ℝ) : evQ (LP.one : LP ℚ) θ = 1 := by
  rw [evQ_eq, den_one, map_one]

theorem norm_evQ_le (p : LP ℚ) (θ : ℝ) : ‖evQ p θ‖ ≤ ((l1 p.coefs : ℚ) : ℝ) := by
  rw [evQ_eq_evalC]; exact sup_le_l1 p.coefs p.dmin θ

/-! ### the operations of `LA ℚ` are the matrix operations at every point of the circle -/

theorem evMat_00 (g : LA ℚ) (θ : ℝ) : (evMat g θ) 0 0 = evQ g.I θ := rfl
theorem evMat_01 (g : LA ℚ) (θ : ℝ) : (evMat g θ) 0 1 = I * evQ g.X θ := rfl
theorem evMat_10 (g : LA ℚ) (θ : ℝ) : (evMat g θ) 1 0 = I * evQ g.X (-θ) := rfl
theorem evMat_11 (g : LA ℚ) (θ : ℝ) : (evMat g θ) 1 1 = evQ g.I (-θ) := rfl

/-- the matrix `[[A(w), i B(w)], [i B(w⁻¹), A(w⁻¹)]]`, `w = e^{iθ}`, of a pair of Laurent polynomials -/
noncomputable def pmat (g : DS.P2 ℚ) (θ : ℝ) : Matrix (Fin 2) (Fin 2) ℂ :=
  !![evalQ θ g.A, I * evalQ θ g.B; I * evalQ (-θ) g.B, evalQ (-θ) g.A]

theorem evMat_eq (g : LA ℚ) (θ : ℝ) : evMat g θ = pmat (DS.pden g) θ := by
  simp only [evMat, pmat, DS.pden, evQ_eq]

theorem pmat_mul (g h : DS.P2 ℚ) (θ : ℝ) : pmat (g * h) θ = pmat g θ * pmat h θ := by
  have hII : (I : ℂ) * I = -1 := Complex.I_mul_I
  simp only [pmat, mul_fin_two, DS.mul_A, DS.mul_B, map_sub, map_add, map_mul, evalQ_invert,
    neg_neg]
  refine mat2_congr ?_ ?_ ?_ ?_
  · linear_combination (-(evalQ θ g.B * evalQ (-θ) h.B)) * hII
  · ring
  · ring
  · linear_combination (-(evalQ (-θ) g.B * evalQ θ h.B)) * hII

theorem pmat_rot (c : ℚ × ℚ) (θ : ℝ) :
    pmat (DS.rot c) θ = rotC ((c.1 : ℝ) : ℂ) ((c.2 : ℝ) : ℂ) := by
  simp only [pmat, DS.rot, evalQ_C, rotC]

theorem pmat_W (θ : ℝ) : pmat DS.W θ = wC θ := by
  simp only [pmat, DS.W, wC, evalQ_T, zpow_one, map_zero, mul_zero, exp_neg_theta, Complex.exp_neg]

theorem pmat_angP (c : ℚ × ℚ) (cs : List (ℚ × ℚ)) (θ : ℝ) :
    pmat (DS.angP (c :: cs)) θ
      = cs.foldl (fun U e => U * (wC θ * rotC ((e.1 : ℝ) : ℂ) ((e.2 : ℝ) : ℂ)))
          (rotC ((c.1 : ℝ) : ℂ) ((c.2 : ℝ) : ℂ)) := by
  rw [DS.angP, ← DS.foldl_eq, ← pmat_rot c θ]
  refine (List.foldl_hom (fun M => pmat M θ) (H := fun M e => ?_)).symm
  rw [pmat_mul, pmat_mul, pmat_W, pmat_rot, Matrix.mul_assoc]

/-! ### `unitary_from_angles` -/

theorem fromAngles_returns (c : ℚ × ℚ) (cs : List (ℚ × ℚ)) :
    ∃ g, LA.fromAngles (c :: cs) = .ok g ∧ g.WF := by
  obtain ⟨g, hg, -, hr⟩ := DS.fromAngles_spec (c :: cs) cs.length rfl
  exact ⟨g, hg, hr.1.wf⟩

theorem fromAngles_eval (c : ℚ × ℚ) (cs : List (ℚ × ℚ)) (g : LA ℚ)
    (h : LA.fromAngles (c :: cs) = .ok g) (θ : ℝ) :
    evMat g θ = cs.foldl (fun U e => U * (wC θ * rotC ((e.1 : ℝ) : ℂ) ((e.2 : ℝ) : ℂ)))
                  (rotC ((c.1 : ℝ) : ℂ) ((c.2 : ℝ) : ℂ)) := by
  obtain ⟨g', hg', hp, -⟩ := DS.fromAngles_spec (c :: cs) cs.length rfl
  cases h.symm.trans hg'
  rw [evMat_eq, hp, pmat_angP]

theorem fromAngles_NZ (c : ℚ × ℚ) (cs : List (ℚ × ℚ)) (g : LA ℚ)
    (h : LA.fromAngles (c :: cs) = .ok g) : g.NZ := by
  obtain ⟨g', hg', -, hr⟩ := DS.fromAngles_spec (c :: cs) cs.length rfl
  cases h.symm.trans hg'
  exact hr.1

theorem fromAngles_eval_I (c : ℚ × ℚ) (cs : List (ℚ × ℚ)) (g : LA ℚ)
    (h : LA.fromAngles (c :: cs) = .ok g) (θ : ℝ) :
    evQ g.I θ = (cs.foldl (fun U e => U * (wC θ * rotC ((e.1 : ℝ) : ℂ) ((e.2 : ℝ) : ℂ)))
                  (rotC ((c.1 : ℝ) : ℂ) ((c.2 : ℝ) : ℂ))) 0 0 := by
  rw [← fromAngles_eval c cs g h θ, evMat_00]

theorem fromAngles_eval_X (c : ℚ × ℚ) (cs : List (ℚ × ℚ)) (g : LA ℚ)
    (h : LA.fromAngles (c :: cs) = .ok g) (θ : ℝ) :
    I * evQ g.X θ = (cs.foldl (fun U e => U * (wC θ * rotC ((e.1 : ℝ) : ℂ) ((e.2 : ℝ) : ℂ)))
                  (rotC ((c.1 : ℝ) : ℂ) ((c.2 : ℝ) : ℂ))) 0 1 := by
  rw [← fromAngles_eval c cs g h θ, evMat_01]

/-! ### the same product over arbitrary pairs -/

noncomputable def castP (c : ℚ × ℚ) : ℂ × ℂ := (((c.1 : ℝ) : ℂ), ((c.2 : ℝ) : ℂ))

/-- the default pair `(1, 0)` of `jacSpec` is the pair of the phase `0` -/
theorem castP_one_zero : castP (1, 0) = (1, 0) := by simp [castP]

/-- `R(e₀) · (W(θ) R(e₁)) ··· (W(θ) R(e_n))` with `R(c, s) = c·1 + s·iX` for ARBITRARY pairs:
    the same left fold as `Ucirc` and as the right-hand side of `fromAngles_eval` -/
noncomputable def UcircPairs (θ : ℝ) : List (ℂ × ℂ) → M22
  | [] => 1
  | e :: es => es.foldl (fun U e => U * (wC θ * rotC e.1 e.2)) (rotC e.1 e.2)

noncomputable def stepM (θ : ℝ) (e : ℂ × ℂ) : M22 := wC θ * rotC e.1 e.2

theorem foldl_step_eq (θ : ℝ) (es : List (ℂ × ℂ)) (X : M22) :
    es.foldl (fun U e => U * (wC θ * rotC e.1 e.2)) X = X * (es.map (stepM θ)).prod := by
  induction es generalizing X with
  | nil => simp
  | cons e es ih =>
    simp only [List.foldl_cons, List.map_cons, List.prod_cons, ih, stepM, Matrix.mul_assoc]

/-- a uniform `List.prod` of steps, to which `List.prod_set` applies, at the price of a leading
    `W(−θ)` -/
theorem UcircPairs_eq_prod (θ : ℝ) (l : List (ℂ × ℂ)) (hl : l ≠ []) :
    UcircPairs θ l = wC (-θ) * (l.map (stepM θ)).prod := by
  cases l with
  | nil => exact absurd rfl hl
  | cons e es =>
    simp only [UcircPairs, foldl_step_eq, List.map_cons, List.prod_cons, stepM]
    rw [← Matrix.mul_assoc, ← Matrix.mul_assoc, wC_neg_mul, Matrix.one_mul]

theorem fromAngles_eval_pairs (ps : List (ℚ × ℚ)) (g : LA ℚ) (h : LA.fromAngles ps = .ok g)
    (θ : ℝ) : evMat g θ = UcircPairs θ (ps.map castP) := by
  cases ps with
  | nil => rw [fromAngles_nil] at h; cases h
  | cons c cs =>
    rw [fromAngles_eval c cs g h θ]
    simp only [List.map_cons, UcircPairs, List.foldl_map, castP]

end QSP
