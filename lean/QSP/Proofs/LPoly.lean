/-
  Proofs of the property theorems of `QSP/Properties/C09.lean`: the list model `LP R`
  of `pyqsp/LPoly.py` computes exact arithmetic of Laurent polynomials.
-/
import QSP.Proofs.Den
import QSP.Model.Hist
import Mathlib.Algebra.Order.Ring.Rat
open LaurentPolynomial
namespace QSP
variable {R : Type} [CommRing R]

/-! ### the constructor -/

theorem den_mk' (cs : List R) (d : ℤ) : den (LP.mk' cs d) = denL cs d := by
  cases cs <;> simp [LP.mk', den]

theorem WF_mk' (cs : List R) (d : ℤ) : (LP.mk' cs d).WF := by
  cases cs <;> simp [LP.mk', LP.WF]

theorem dmin_mk' (cs : List R) (d : ℤ) : (LP.mk' cs d).dmin = d := by
  cases cs <;> simp [LP.mk']

theorem den_of_iszero {p : LP R} (hp : p.WF) (h : p.iszero = true) : den p = 0 := by
  simp [den, hp.2 h]

theorem den_zero : den (LP.zero : LP R) = 0 ∧ (LP.zero : LP R).WF :=
  ⟨by simp [LP.zero, den_mk'], WF_mk' _ _⟩

/-! ### ring operations -/

theorem den_mul (p q : LP R) (hp : p.WF) (hq : q.WF) :
    den (p.mul q) = den p * den q ∧ (p.mul q).WF := by
  unfold LP.mul
  split
  · next h =>
    refine ⟨?_, den_zero.2⟩
    rw [den_zero.1]
    rcases Bool.or_eq_true _ _ |>.mp h with h | h
    · rw [den_of_iszero hp h, zero_mul]
    · rw [den_of_iszero hq h, mul_zero]
  · exact ⟨by rw [den_mk', denL_convL]; rfl, WF_mk' _ _⟩

theorem den_neg (p : LP R) (hp : p.WF) : den p.neg = - den p ∧ p.neg.WF := by
  unfold LP.neg
  split
  · next h =>
    exact ⟨by rw [den_mk', den_of_iszero hp h]; simp, WF_mk' _ _⟩
  · exact ⟨by rw [den_mk', denL_map_neg]; rfl, WF_mk' _ _⟩

theorem den_smul (c : R) (p : LP R) (hp : p.WF) :
    den (LP.smul c p) = C c * den p ∧ (LP.smul c p).WF := by
  unfold LP.smul
  split
  · next h =>
    exact ⟨by rw [den_of_iszero hp h]; simp [den], by simp [LP.WF]⟩
  · exact ⟨by rw [den_mk', denL_map_mul]; rfl, WF_mk' _ _⟩

theorem den_inv (p : LP R) (hp : p.WF) :
    den p.inv = invert (den p) ∧ p.inv.WF := by
  unfold LP.inv
  split
  · next h =>
    exact ⟨by rw [den_mk', den_of_iszero hp h]; simp [invert], WF_mk' _ _⟩
  · exact ⟨by rw [den_mk']; exact denL_reverse _ _, WF_mk' _ _⟩

/-! ### coefficients -/

theorem getItem_eq (p : LP R) (k : ℤ) : p.getItem k = (den p).coeff k := by
  unfold LP.getItem den
  rw [denL_coeff]
  by_cases h : (k - p.dmin) % 2 = 0
  · simp only [h, ne_eq, not_true_eq_false, if_false, true_and]
    by_cases h2 : (k - p.dmin) / 2 < p.coefs.length ∧ (k - p.dmin) / 2 ≥ 0
    · rw [if_pos h2, if_pos ⟨h2.2, h2.1⟩]
    · rw [if_neg h2, if_neg (fun h3 => h2 ⟨h3.2, h3.1⟩)]
  · simp [h]

/-! ### alignment and sums -/

theorem denL_pad (p : LP R) {lo : ℤ} (hi : ℤ) (hlo : lo ≤ p.dmin) (e : lo % 2 = p.dmin % 2) :
    denL (p.pad lo hi) lo = den p := by
  rw [LP.pad, denL_append, denL_append, denL_zeros, denL_zeros, zero_add, add_zero, length_zeros,
    Int.toNat_of_nonneg (half_sub_nonneg hlo), add_two_mul_half e]
  rfl

theorem den_aligned (p : LP R) (hp : p.WF) (lo hi : ℤ) (l : List R)
    (hpar : p.iszero = true ∨ (p.dmin - lo) % 2 = 0) (h : p.aligned lo hi = .ok l) :
    denL l lo = den p ∧
      (p.iszero = false → (hi - p.dmax) % 2 = 0 → (l.length : ℤ) = (hi - lo) / 2 + 1) := by
  unfold LP.aligned at h
  cases hz : p.iszero with
  | true =>
    refine ⟨?_, fun h0 => Bool.noConfusion h0⟩
    rw [hz, if_pos rfl] at h
    dsimp only at h
    split at h
    · cases h
    · cases h; rw [den_of_iszero hp hz]; exact denL_zeros _ _
  | false =>
    rw [hz, if_neg Bool.false_ne_true] at h
    split at h
    · next hw =>
      cases h
      have e := hpar.resolve_left (by rw [hz]; exact Bool.false_ne_true)
      have e1 : lo % 2 = p.dmin % 2 := (Int.emod_eq_emod_iff_emod_sub_eq_zero.mpr e).symm
      refine ⟨denL_pad p hi hw.1 e1, fun _ e2 => ?_⟩
      have := LP.length_pad_of_parity hw.1 hw.2 e1 (Int.emod_eq_emod_iff_emod_sub_eq_zero.mpr e2)
      show ((p.pad lo hi).length : ℤ) = _
      omega
    · cases h

theorem den_add (p q : LP R) (hp : p.WF) (hq : q.WF)
    (h : p.iszero = true ∨ q.iszero = true ∨ p.parity = q.parity) :
    ∃ r, p.add q = .ok r ∧ den r = den p + den q ∧ r.WF := by
  cases hpz : p.iszero with
  | true =>
    refine ⟨_, by rw [LP.add, if_pos hpz], ?_, by split <;> exact WF_mk' _ _⟩
    rw [den_of_iszero hp hpz, zero_add]
    split
    · next hqz => rw [den_mk', den_of_iszero hq hqz]; rfl
    · exact den_mk' _ _
  | false =>
    cases hqz : q.iszero with
    | true =>
      exact ⟨_, by rw [LP.add, hpz, if_neg Bool.false_ne_true, if_pos hqz],
        by rw [den_mk', den_of_iszero hq hqz, add_zero]; rfl, WF_mk' _ _⟩
    | false =>
      have hpar : p.parity = q.parity := by simpa [hpz, hqz] using h
      obtain ⟨e, hl, on⟩ := LP.add_eq hp.1 hpz hqz hpar rfl rfl
      have e1 : min p.dmin q.dmin % 2 = p.dmin % 2 := min_emod_two hpar
      exact ⟨_, e, (denL_zipAdd _ _ _ hl).trans (congrArg₂ _
        (denL_pad p _ (min_le_left ..) e1) (denL_pad q _ (min_le_right ..) (e1.trans hpar))), on.wf⟩

theorem add_refuses (p q : LP R) (hp : p.iszero = false) (hq : q.iszero = false)
    (h : p.parity ≠ q.parity) : p.add q = .error .parity := by
  simp [LP.add, hp, hq, h]

theorem den_sub (p q : LP R) (hp : p.WF) (hq : q.WF)
    (h : p.iszero = true ∨ q.iszero = true ∨ p.parity = q.parity) :
    ∃ r, p.sub q = .ok r ∧ den r = den p - den q ∧ r.WF := by
  have hn := den_neg q hq
  obtain ⟨hz, hpar⟩ := LRange.neg_flags q hq
  obtain ⟨r, h1, h2, h3⟩ := den_add p q.neg hp hn.2 (by rw [hz, hpar]; exact h)
  exact ⟨r, h1, by rw [h2, hn.1, sub_eq_add_neg], h3⟩

theorem add_ok {p q r : LP R} (hp : p.WF) (hq : q.WF) (h : p.add q = .ok r) :
    den r = den p + den q ∧ r.WF := by
  by_cases hg : p.iszero = true ∨ q.iszero = true ∨ p.parity = q.parity
  · obtain ⟨r', h1, h2⟩ := den_add p q hp hq hg
    cases ok_inj h h1
    exact h2
  · simp only [not_or, Bool.not_eq_true] at hg
    rw [add_refuses p q hg.1 hg.2.1 hg.2.2] at h
    cases h

theorem sub_ok {p q r : LP R} (hp : p.WF) (hq : q.WF) (h : p.sub q = .ok r) :
    den r = den p - den q ∧ r.WF := by
  have hn := den_neg q hq
  obtain ⟨h1, h2⟩ := add_ok hp hn.2 h
  exact ⟨by rw [h1, hn.1, sub_eq_add_neg], h2⟩

theorem add_nonzero_cases {p q : LP R} (hp : p.WF) (hq : q.WF)
    (hq0 : q.iszero = false) :
    (∃ r, p.add q = .ok r ∧ r.WF ∧ r.iszero = false ∧ r.parity = q.parity ∧
        (p.iszero = false → p.parity = q.parity)) ∨
      (p.add q = .error .parity ∧ p.iszero = false ∧ p.parity ≠ q.parity) := by
  cases hp0 : p.iszero with
  | true =>
    have e : p.add q = .ok ⟨q.coefs, q.dmin, false⟩ := by
      rw [LP.add, if_pos hp0, hq0, if_neg Bool.false_ne_true, LP.mk'_of_ne hq.1]
    exact Or.inl ⟨_, e, ⟨hq.1, fun z => by cases z⟩, rfl, rfl, fun z => by cases z⟩
  | false =>
    by_cases hpar : p.parity = q.parity
    · obtain ⟨r, e, hr⟩ := (LP.On.of hp.1 hp0).add (LP.On.of hq.1 hq0) hpar
      exact Or.inl ⟨r, e, hr.wf, hr.nz, by rw [hr.parity, min_comm, min_emod_two hpar.symm]; rfl,
        fun _ => hpar⟩
    · exact Or.inr ⟨add_refuses p q hp0 hq0 hpar, rfl, hpar⟩

/-! ### truncation -/

theorem truncate_eq {p : LP R} {lo hi : ℤ} {arr : List R}
    (h : p.aligned (min lo p.dmin) (max hi p.dmax + 2) = .ok arr) :
    p.truncate lo hi = .ok (LP.mk' (sliceNegEnd arr ((lo - min lo p.dmin) / 2)
      ((hi - max hi p.dmax) / 2 - 1)) lo) := by
  simp only [LP.truncate, h]

theorem truncate_of_den_zero (p : LP R) (hp : p.WF) (h0 : den p = 0) (lo hi : ℤ) :
    ∃ r, p.truncate lo hi = .ok r ∧ r.WF ∧ den r = 0 := by
  have hall : ∀ x ∈ p.coefs, x = 0 := forall_zero_of_denL_eq_zero h0
  have harr : ∃ arr, p.aligned (min lo p.dmin) (max hi p.dmax + 2) = .ok arr ∧ ∀ x ∈ arr, x = 0 := by
    cases hz : p.iszero with
    | true =>
      have hd : p.dmax = p.dmin := by simp [LP.dmax, hp.2 hz]
      have hn : ¬ ((max hi p.dmax + 2 - min lo p.dmin) / 2 + 1 < 0) := by omega
      exact ⟨_, by simp only [LP.aligned, hz, if_true, if_neg hn]; rfl,
        fun x hx => (List.mem_replicate.mp hx).2⟩
    | false =>
      refine ⟨_, LP.aligned_eq hz (by omega) (by omega), fun x hx => ?_⟩
      simp only [LP.pad, List.mem_append] at hx
      rcases hx with (hx | hx) | hx
      · exact (List.mem_replicate.mp hx).2
      · exact hall x hx
      · exact (List.mem_replicate.mp hx).2
  obtain ⟨arr, ha, hzero⟩ := harr
  refine ⟨_, truncate_eq ha, WF_mk' _ _, ?_⟩
  rw [den_mk']
  exact denL_eq_zero_of_forall (fun x hx => hzero x (mem_sliceNegEnd hx)) _

/-- the slice that `truncate` takes from `p` padded to `lb .. ub`, for any `lb ≤ lo` of the parity of
    `p`: read from `lo`, it is `p` without the powers below `lo` and without the last `-e` powers of the
    padded list, whose end is given by `LP.pad_end` -/
theorem denL_slice_pad (p : LP R) {lb lo ub : ℤ} (e : ℤ) (h1 : lb ≤ lo) (h2 : lb ≤ p.dmin)
    (hub : p.dmax ≤ ub) (e0 : lo % 2 = p.dmin % 2) (e1 : lb % 2 = p.dmin % 2) (k : ℤ) :
    (denL (sliceNegEnd (p.pad lb ub) ((lo - lb) / 2) e) lo).coeff k =
      if lo ≤ k ∧ k < p.dmax + 2 * ((ub - p.dmax) / 2) + 2 * (e + 1) then (den p).coeff k else 0 := by
  have key := denL_sliceNegEnd_coeff (p.pad lb ub) (half_sub_nonneg h1) e lb k
  rwa [add_two_mul_half (e1.trans e0.symm), denL_pad p _ h2 e1,
    show lb + 2 * (e + ((p.pad lb ub).length : ℤ)) = lb + 2 * (p.pad lb ub).length - 2 + 2 * (e + 1) by ring,
    LP.pad_end h2 hub e1] at key

/-- the floor divisions of the slice end of `truncate`: the list padded up to `max hi D + 2` (`D` the
    highest stored power) loses its last `1 - (hi - max hi D) / 2` powers; among the powers of the
    parity of `D` what is left stops at `hi` -/
theorem truncate_stop {D hi k : ℤ} (hk : (k - D) % 2 = 0) :
    k < D + 2 * ((max hi D + 2 - D) / 2) + 2 * ((hi - max hi D) / 2 - 1 + 1) ↔ k ≤ hi := by
  omega

theorem truncate_of_parity (p : LP R) (hz : p.iszero = false) (lo hi : ℤ)
    (hpar : (lo - p.dmin) % 2 = 0) :
    ∃ r, p.truncate lo hi = .ok r ∧ r.WF ∧
      ∀ k, (den r).coeff k = if lo ≤ k ∧ k ≤ hi then (den p).coeff k else 0 := by
  have hlb : min lo p.dmin ≤ p.dmin := min_le_right ..
  have hub : p.dmax ≤ max hi p.dmax + 2 := by have := le_max_right hi p.dmax; omega
  have e0 : lo % 2 = p.dmin % 2 := Int.emod_eq_emod_iff_emod_sub_eq_zero.mpr hpar
  refine ⟨_, truncate_eq (LP.aligned_eq hz hlb hub), WF_mk' _ _, fun k => ?_⟩
  rw [den_mk', denL_slice_pad p _ (min_le_left ..) hlb hub e0 ((min_emod_two e0).trans e0)]
  by_cases hc : (den p).coeff k = 0
  · simp only [hc, ite_self]
  · have hk : (k - p.dmax) % 2 = 0 := by have := (denL_coeff_ne_zero hc).1; rw [LP.dmax_eq]; omega
    simp only [truncate_stop hk]

/-- truncation to a window inside the stored one, as a list: `truncate` pads `p` with ONE zero at the end
    (`aligned(dmin, dmax + 2)`), and its slice `[j : -(j' + 1)]` of that list is `p.coefs[j : len - j']` -/
theorem LP.On.truncate_inner {p : LP R} {a b : ℤ} (hp : p.On a b) (j j' : ℕ)
    (h : j + j' < p.coefs.length) :
    p.truncate (a + 2 * j) (b - 2 * j') =
      .ok ⟨(p.coefs.take (p.coefs.length - j')).drop j, a + 2 * j, false⟩ := by
  have hne : (p.coefs.take (p.coefs.length - j')).drop j ≠ [] := by
    apply List.ne_nil_of_length_pos
    rw [List.length_drop, List.length_take_of_le (Nat.sub_le _ _)]; omega
  have e1 : min (a + 2 * j) p.dmin = p.dmin := by rw [hp.lo_eq]; exact min_eq_right (by omega)
  have e2 : max (b - 2 * j') p.dmax = p.dmax := by rw [hp.hi_eq]; exact max_eq_right (by omega)
  -- the two slice indices of `truncate`
  have e3 : (a + 2 * (j : ℤ) - a) / 2 = j := by
    rw [add_sub_cancel_left, Int.mul_ediv_cancel_left _ two_ne_zero]
  have e4 : (b - 2 * (j' : ℤ) - b) / 2 - 1 = -((j' + 1 : ℕ) : ℤ) := by
    rw [sub_sub_cancel_left, ← mul_neg, Int.mul_ediv_cancel_left _ two_ne_zero, Nat.cast_succ,
      neg_add, sub_eq_add_neg]
  rw [truncate_eq (LP.aligned_eq hp.nz (min_le_right _ _) (by rw [e2]; exact le_add_of_nonneg_right zero_le_two)),
    LP.pad, e1, e2, sub_self, Int.zero_ediv, Int.toNat_zero, add_sub_cancel_left,
    show ((2 : ℤ) / 2).toNat = 1 from rfl, hp.lo_eq, hp.hi_eq, e3, e4,
    sliceNegEnd_neg _ _ _ (by simp [zeros]; omega)]
  simp only [zeros, List.replicate_zero, List.nil_append, List.length_append, List.length_replicate,
    Nat.add_sub_add_right]
  rw [List.take_append_of_le_length (Nat.sub_le _ _), LP.mk'_of_ne hne]

/-- side condition of a `trunc` step, on the lower window end only -/
def TruncGuard (f : R[T;T⁻¹]) (lo : ℤ) : Prop := ∀ k, f.coeff k ≠ 0 → (lo - k) % 2 = 0

theorem truncGuard_of_parity (p : LP R) (hp : p.WF) (lo : ℤ)
    (h : p.iszero = true ∨ (lo - p.dmin) % 2 = 0) : TruncGuard (den p) lo := by
  intro k hk
  rcases h with hz | h1
  · rw [den_of_iszero hp hz] at hk; simp at hk
  · have := denL_coeff_ne_zero hk
    omega

theorem den_truncate' (p : LP R) (hp : p.WF) (lo hi : ℤ) (hpar : TruncGuard (den p) lo) :
    ∃ r, p.truncate lo hi = .ok r ∧ r.WF ∧
      ∀ k, (den r).coeff k = if lo ≤ k ∧ k ≤ hi then (den p).coeff k else 0 := by
  by_cases h : p.iszero = false ∧ (lo - p.dmin) % 2 = 0
  · exact truncate_of_parity p h.1 lo hi h.2
  · -- a flagged zero, or stored on the other parity: then no power can occur at all
    have h0 : den p = 0 := by
      cases hz : p.iszero with
      | true => exact den_of_iszero hp hz
      | false =>
        refine LaurentPolynomial.ext fun k => by_contra fun hne => h ⟨hz, ?_⟩
        have h1 := hpar k hne
        have h2 := denL_coeff_ne_zero hne
        omega
    obtain ⟨r, h1, h2, h3⟩ := truncate_of_den_zero p hp h0 lo hi
    exact ⟨r, h1, h2, fun k => by simp [h3, h0]⟩

theorem den_truncate (p : LP R) (hp : p.WF) (lo hi : ℤ)
    (hpar : p.iszero = true ∨ ((lo - p.dmin) % 2 = 0 ∧ (hi - p.dmin) % 2 = 0)) :
    ∃ r, p.truncate lo hi = .ok r ∧ r.WF ∧
      ∀ k, (den r).coeff k = if lo ≤ k ∧ k ≤ hi then (den p).coeff k else 0 :=
  den_truncate' p hp lo hi (truncGuard_of_parity p hp lo (hpar.imp_right And.left))

/-! ### halves -/

theorem den_posHalf (p : LP R) (k : ℤ) :
    (den p.posHalf).coeff k = if p.dmin + 2 * (p.nhalf : ℤ) ≤ k then (den p).coeff k else 0 := by
  unfold LP.posHalf
  rw [den_mk', denL_append, denL_zeros, zero_add, length_zeros, denL_drop_coeff]
  rfl

theorem den_negHalf (p : LP R) (k : ℤ) :
    (den p.negHalf).coeff k = if k < p.dmin + 2 * (p.nhalf : ℤ) then (den p).coeff k else 0 := by
  unfold LP.negHalf
  rw [den_mk', denL_append, denL_zeros, add_zero, denL_take_coeff]
  rfl

/-! ### evaluation, norm, rounding -/

theorem evalAt_zero (w w' : R) : (LP.zero : LP R).evalAt w w' = 0 := by
  simp [LP.evalAt, LP.zero, LP.mk']

theorem evalAt_eq (p : LP R) (hp : p.WF) (u : Rˣ) :
    p.evalAt (u : R) ((u⁻¹ : Rˣ) : R) = LaurentPolynomial.eval₂ (RingHom.id R) u (den p) := by
  unfold LP.evalAt
  split
  · next hz =>
    rw [den_of_iszero hp hz, map_zero]
  · exact evalL_eq u _ _

theorem normSq_eq (p : LP R) : p.normSq = (den p * invert (den p)).coeff 0 :=
  (normSqL_eq p.coefs p.dmin).symm

theorem roundZeros_spec (t : ℚ) (p : LP ℚ) :
    (p.roundZeros t).coefs = p.coefs.map (fun c => if |c| < t then 0 else c) ∧
    (p.roundZeros t).dmin = p.dmin := by
  refine ⟨?_, rfl⟩
  unfold LP.roundZeros
  apply List.map_congr_left
  intro c _
  by_cases hc : c < 0
  · simp [hc, abs_of_neg hc]
  · simp [hc, abs_of_nonneg (not_lt.mp hc)]

/-! ### histories -/

/-- one step of the abstract interpreter: registers hold Laurent polynomials, a missing register reads
    as `0`; `trunc` may return any Laurent polynomial that has exactly the coefficients of the window
    (there is only one) -/
inductive StepAbs : List R[T;T⁻¹] → Op R → List R[T;T⁻¹] → Prop
  | mul (env : List R[T;T⁻¹]) (d a b : ℕ) :
      StepAbs env (.mul d a b) (env.set d (env.getD a 0 * env.getD b 0))
  | add (env : List R[T;T⁻¹]) (d a b : ℕ) :
      StepAbs env (.add d a b) (env.set d (env.getD a 0 + env.getD b 0))
  | sub (env : List R[T;T⁻¹]) (d a b : ℕ) :
      StepAbs env (.sub d a b) (env.set d (env.getD a 0 - env.getD b 0))
  | neg (env : List R[T;T⁻¹]) (d a : ℕ) :
      StepAbs env (.neg d a) (env.set d (- env.getD a 0))
  | inv (env : List R[T;T⁻¹]) (d a : ℕ) :
      StepAbs env (.inv d a) (env.set d (invert (env.getD a 0)))
  | smul (env : List R[T;T⁻¹]) (d a : ℕ) (c : R) :
      StepAbs env (.smul d a c) (env.set d (C c * env.getD a 0))
  | trunc (env : List R[T;T⁻¹]) (d a : ℕ) (lo hi : ℤ) (v : R[T;T⁻¹])
      (hv : ∀ k, v.coeff k = if lo ≤ k ∧ k ≤ hi then (env.getD a 0).coeff k else 0) :
      StepAbs env (.trunc d a lo hi) (env.set d v)
  | zero (env : List R[T;T⁻¹]) (d : ℕ) :
      StepAbs env (.zero d) (env.set d 0)

inductive RunAbs : List (Op R) → List R[T;T⁻¹] → List R[T;T⁻¹] → Prop
  | nil (env : List R[T;T⁻¹]) : RunAbs [] env env
  | cons {op : Op R} {ops : List (Op R)} {env e env' : List R[T;T⁻¹]} :
      StepAbs env op e → RunAbs ops e env' → RunAbs (op :: ops) env env'

def StepOK (env : List (LP R)) : Op R → Prop
  | .trunc _ a lo _ => TruncGuard (den (rd env a)) lo
  | _ => True

/-- every `trunc` that the model history executes satisfies `TruncGuard` -/
def TruncOK : List (Op R) → List (LP R) → Prop
  | [], _ => True
  | op :: ops, env => StepOK env op ∧ ∀ e, step env op = .ok e → TruncOK ops e

theorem rd_WF {env : List (LP R)} (henv : ∀ p ∈ env, p.WF) (i : ℕ) : (rd env i).WF := by
  unfold rd
  rw [List.getD_eq_getElem?_getD]
  cases h : env[i]? with
  | none => exact den_zero.2
  | some q => exact henv q (List.mem_of_getElem? h)

theorem getD_map_den (env : List (LP R)) (i : ℕ) :
    (env.map den).getD i 0 = den (rd env i) :=
  getD_map_of_eq den den_zero.1 env i

theorem step_set {env : List (LP R)} (henv : ∀ p ∈ env, p.WF) {op : Op R} (d : ℕ) {r : LP R}
    {v : R[T;T⁻¹]} (hs : StepAbs (env.map den) op ((env.map den).set d v)) (hr : den r = v ∧ r.WF) :
    StepAbs (env.map den) op ((env.set d r).map den) ∧ ∀ p ∈ env.set d r, p.WF := by
  rw [List.map_set, hr.1]
  refine ⟨hs, fun p hp => ?_⟩
  rcases List.mem_or_eq_of_mem_set hp with h | h
  · exact henv p h
  · exact h ▸ hr.2

theorem step_refines (env : List (LP R)) (henv : ∀ p ∈ env, p.WF) (op : Op R)
    (hok : StepOK env op) (e : List (LP R)) (h : step env op = .ok e) :
    StepAbs (env.map den) op (e.map den) ∧ ∀ p ∈ e, p.WF := by
  cases op with
  | mul d a b =>
    cases h
    exact step_set henv d (.mul _ d a b)
      (by rw [getD_map_den, getD_map_den]; exact den_mul _ _ (rd_WF henv a) (rd_WF henv b))
  | add d a b =>
    obtain ⟨r, hr, h⟩ := bind_ok h
    cases h
    exact step_set henv d (.add _ d a b)
      (by rw [getD_map_den, getD_map_den]; exact add_ok (rd_WF henv a) (rd_WF henv b) hr)
  | sub d a b =>
    obtain ⟨r, hr, h⟩ := bind_ok h
    cases h
    exact step_set henv d (.sub _ d a b)
      (by rw [getD_map_den, getD_map_den]; exact sub_ok (rd_WF henv a) (rd_WF henv b) hr)
  | neg d a =>
    cases h
    exact step_set henv d (.neg _ d a) (by rw [getD_map_den]; exact den_neg _ (rd_WF henv a))
  | inv d a =>
    cases h
    exact step_set henv d (.inv _ d a) (by rw [getD_map_den]; exact den_inv _ (rd_WF henv a))
  | smul d a c =>
    cases h
    exact step_set henv d (.smul _ d a c) (by rw [getD_map_den]; exact den_smul c _ (rd_WF henv a))
  | trunc d a lo hi =>
    obtain ⟨r, hr, h⟩ := bind_ok h
    cases h
    obtain ⟨r', h1, h2, h3⟩ := den_truncate' _ (rd_WF henv a) lo hi hok
    cases ok_inj hr h1
    exact step_set henv d (.trunc _ d a lo hi _ (by rw [getD_map_den]; exact h3)) ⟨rfl, h2⟩
  | zero d =>
    cases h
    exact step_set henv d (.zero _ d) den_zero

theorem run_refines (ops : List (Op R)) (env : List (LP R)) (henv : ∀ p ∈ env, p.WF)
    (hok : TruncOK ops env) (env' : List (LP R)) (h : run ops env = .ok env') :
    RunAbs ops (env.map den) (env'.map den) ∧ ∀ p ∈ env', p.WF := by
  induction ops generalizing env with
  | nil => cases h; exact ⟨RunAbs.nil _, henv⟩
  | cons op ops ih =>
    obtain ⟨e, he, h⟩ := bind_ok h
    obtain ⟨h1, h2⟩ := step_refines env henv op hok.1 e he
    obtain ⟨h3, h4⟩ := ih e h2 (hok.2 e he) h
    exact ⟨RunAbs.cons h1 h3, h4⟩

end QSP
