/-
  Property C12, Jacobian clause: the product-rule formula used by `jacSpec`
  (`QSP/Model/Jacobian.lean`) IS the true partial derivative of the response with respect to
  each reduced phase.

  `UcircPairs θ pairs` (`QSP/Proofs/AnglesEval.lean`) is the ordered product
  `R(c₀,s₀)·(W(θ)R(c₁,s₁))···` over ARBITRARY pairs, so that `Ucirc` (pairs `(cos φ, sin φ)`), its
  derivative `UcircD` (one pair replaced by `(−sin φ, cos φ)`) and the value of `LA.fromAngles`
  (`fromAngles_eval_pairs`) are all instances, and the product and chain rule are proved once.  `imCheb` on an element computed by `LA.fromAngles`
  returns ALL cosine coefficients of `θ ↦ Im <+| product |+>` (`imCheb_spec`), so `jacSpec`
  tabulates the coefficients of the product-rule functional `jacDPairs` at the enclosure centres
  (`jacSpec_spec`); at the exact pairs that functional is the derivative
  (`hasDerivAt_resp_layout_im_pairs`).
-/
import QSP.Model.Jacobian
import QSP.Proofs.BallSound
import QSP.Proofs.SymQSP
import QSP.Proofs.Series
import Mathlib.Analysis.Calculus.Deriv.Prod
import Mathlib.Analysis.SpecialFunctions.Trigonometric.Deriv

open Matrix Complex
namespace QSP

/-! ## entrywise derivative of a matrix-valued function -/

def HasDerivAtM (F : ℝ → M22) (D : M22) (x : ℝ) : Prop :=
  ∀ i j : Fin 2, HasDerivAt (fun t : ℝ => F t i j) (D i j) x

/-- `HasDerivAt` only needs the topological vector space structure of the target; `M22` carries
    the product topology, which is the topology of every norm on it.  Where a proof below
    multiplies matrix-valued functions it opens the L2 operator norm for that step, so that
    Mathlib's product rule for normed algebras applies; the statements do not mention a norm. -/
theorem hasDerivAtM_iff (F : ℝ → M22) (D : M22) (x : ℝ) :
    HasDerivAtM F D x ↔ HasDerivAt F D x := by
  unfold HasDerivAtM
  have h1 := hasDerivAt_pi (𝕜 := ℝ) (φ := (F : ℝ → Fin 2 → Fin 2 → ℂ))
    (φ' := (D : Fin 2 → Fin 2 → ℂ)) (x := x)
  simp only [hasDerivAt_pi] at h1
  exact h1.symm

namespace HasDerivAtM
variable {F G : ℝ → M22} {D E : M22} {x : ℝ}

theorem add (hF : HasDerivAtM F D x) (hG : HasDerivAtM G E x) :
    HasDerivAtM (fun t => F t + G t) (D + E) x := fun i j => (hF i j).add (hG i j)

theorem brG_z (hF : HasDerivAtM F D x) :
    HasDerivAt (fun t => brG .z (F t)) (brG .z D) x := by
  simp only [QSP.brG_z]
  exact hF 0 0

end HasDerivAtM

theorem hasDerivAt_brG_x {F : ℝ → M22} {D : M22} {x : ℝ} (hF : HasDerivAt F D x) :
    HasDerivAt (fun t => brG .x (F t)) (brG .x D) x := by
  have h := (hasDerivAtM_iff F D x).mpr hF
  simp only [QSP.brG_x]
  exact ((((h 0 0).add (h 0 1)).add (h 1 0)).add (h 1 1)).const_mul (1 / 2 : ℂ)

theorem hasDerivAt_im_real {f : ℝ → ℂ} {f' : ℂ} {x : ℝ} (h : HasDerivAt f f' x) :
    HasDerivAt (fun t => (f t).im) f'.im x :=
  (Complex.imCLM.hasFDerivAt.comp_hasDerivAt x h)

theorem hasDerivAt_re_real {f : ℝ → ℂ} {f' : ℂ} {x : ℝ} (h : HasDerivAt f f' x) :
    HasDerivAt (fun t => (f t).re) f'.re x :=
  (Complex.reCLM.hasFDerivAt.comp_hasDerivAt x h)

/-! ## derivative of one factor -/

theorem hasDerivAt_rotC_comp (u : ℝ → ℝ) (u' x : ℝ) (hu : HasDerivAt u u' x) :
    HasDerivAt (fun t : ℝ => rotC ((Real.cos (u t) : ℝ) : ℂ) ((Real.sin (u t) : ℝ) : ℂ))
      ((u' : ℂ) • rotC (-((Real.sin (u x) : ℝ) : ℂ)) ((Real.cos (u x) : ℝ) : ℂ)) x := by
  have hc : HasDerivAt (fun t : ℝ => ((Real.cos (u t) : ℝ) : ℂ))
      ((u' : ℂ) * -((Real.sin (u x) : ℝ) : ℂ)) x := by
    refine (hu.cos.ofReal_comp).congr_deriv ?_
    push_cast; ring
  have hs : HasDerivAt (fun t : ℝ => I * ((Real.sin (u t) : ℝ) : ℂ))
      ((u' : ℂ) * (I * ((Real.cos (u x) : ℝ) : ℂ))) x := by
    refine ((hu.sin.ofReal_comp).const_mul I).congr_deriv ?_
    push_cast; ring
  exact (hasDerivAtM_iff _ _ _).mp
    (Fin.forall_fin_two.mpr ⟨Fin.forall_fin_two.mpr ⟨hc, hs⟩, Fin.forall_fin_two.mpr ⟨hs, hc⟩⟩)

theorem hasDerivAt_rotC (φ : ℝ) :
    HasDerivAt (fun t : ℝ => rotC ((Real.cos t : ℝ) : ℂ) ((Real.sin t : ℝ) : ℂ))
      (rotC (-((Real.sin φ : ℝ) : ℂ)) ((Real.cos φ : ℝ) : ℂ)) φ := by
  simpa using hasDerivAt_rotC_comp (fun t => t) 1 φ (hasDerivAt_id φ)

/-! ## the product over arbitrary pairs -/

/-- `d/dφ prC φ` -/
noncomputable def dprC (φ : ℝ) : ℂ × ℂ := (-((Real.sin φ : ℝ) : ℂ), ((Real.cos φ : ℝ) : ℂ))

theorem dprC_eq (x : ℝ) : dprC x = prC (x + Real.pi / 2) := by
  unfold dprC prC
  rw [Real.cos_add_pi_div_two, Real.sin_add_pi_div_two]
  push_cast
  rfl

theorem prod_set_two (L : List M22) (p q : ℕ) (hpq : p < q) (hq : q < L.length) (a b : M22) :
    ((L.set p a).set q b).prod
      = ((L.take q).take p).prod * a * ((L.take q).drop (p + 1)).prod * b
          * (L.drop (q + 1)).prod := by
  rw [List.prod_set, if_pos (by simpa using hq), List.take_set, List.drop_set_of_lt (by omega),
    List.prod_set, if_pos (by simp; omega)]

theorem UcircPairs_set_one (θ : ℝ) (l : List (ℂ × ℂ)) (p : ℕ) (hp : p < l.length) :
    ∃ A B : M22, ∀ x : ℂ × ℂ, UcircPairs θ (l.set p x) = A * rotC x.1 x.2 * B := by
  refine ⟨wC (-θ) * ((l.map (stepM θ)).take p).prod * wC θ,
    ((l.map (stepM θ)).drop (p + 1)).prod, fun x => ?_⟩
  rw [UcircPairs_eq_prod θ _ (ne_nil_of_lt_length (by simpa using hp)), List.map_set,
    List.prod_set, if_pos (by simpa using hp)]
  simp only [stepM, Matrix.mul_assoc]

theorem UcircPairs_set_two (θ : ℝ) (l : List (ℂ × ℂ)) (p q : ℕ) (hpq : p < q)
    (hq : q < l.length) :
    ∃ A B C : M22, ∀ x y : ℂ × ℂ,
      UcircPairs θ ((l.set p x).set q y) = A * rotC x.1 x.2 * B * rotC y.1 y.2 * C := by
  refine ⟨wC (-θ) * (((l.map (stepM θ)).take q).take p).prod * wC θ,
    (((l.map (stepM θ)).take q).drop (p + 1)).prod * wC θ,
    ((l.map (stepM θ)).drop (q + 1)).prod, fun x y => ?_⟩
  rw [UcircPairs_eq_prod θ _ (ne_nil_of_lt_length (by simpa using hq)), List.map_set,
    List.map_set, prod_set_two _ p q hpq (by simpa using hq)]
  simp only [stepM, Matrix.mul_assoc]

theorem UcircPairs_set_smul (θ : ℝ) (l : List (ℂ × ℂ)) (p : ℕ) (hp : p < l.length) (k : ℂ)
    (x : ℂ × ℂ) :
    UcircPairs θ (l.set p (k * x.1, k * x.2)) = k • UcircPairs θ (l.set p x) := by
  obtain ⟨A, B, h⟩ := UcircPairs_set_one θ l p hp
  have e : rotC (k * x.1) (k * x.2) = k • rotC x.1 x.2 := by
    unfold rotC
    rw [smul_fin_two]
    exact mat2_congr rfl (mul_left_comm _ _ _) (mul_left_comm _ _ _) rfl
  rw [h, h]
  simp only [e, Matrix.mul_smul, Matrix.smul_mul]

/-! ## product rule along the list -/

theorem hasDerivAt_pairs_one (θ : ℝ) (l : List (ℂ × ℂ)) (p : ℕ) (hp : p < l.length)
    (u : ℝ → ℝ) (u' x : ℝ) (hu : HasDerivAt u u' x) :
    HasDerivAt (fun t => UcircPairs θ (l.set p (prC (u t))))
      ((u' : ℂ) • UcircPairs θ (l.set p (dprC (u x)))) x := by
  obtain ⟨A, B, h⟩ := UcircPairs_set_one θ l p hp
  simp only [h]
  open scoped Matrix.Norms.L2Operator in
  refine (((hasDerivAt_rotC_comp u u' x hu).const_mul A).mul_const B).congr_deriv ?_
  simp only [dprC, Matrix.mul_smul, Matrix.smul_mul]

theorem hasDerivAt_pairs_two (θ : ℝ) (l : List (ℂ × ℂ)) (p q : ℕ) (hpq : p < q)
    (hq : q < l.length) (x : ℝ) :
    HasDerivAt (fun t => UcircPairs θ ((l.set p (prC t)).set q (prC t)))
      (UcircPairs θ ((l.set p (dprC x)).set q (prC x))
        + UcircPairs θ ((l.set p (prC x)).set q (dprC x))) x := by
  obtain ⟨A, B, C, h⟩ := UcircPairs_set_two θ l p q hpq hq
  simp only [h]
  have hR : HasDerivAt (fun t : ℝ => rotC (prC t).1 (prC t).2) (rotC (dprC x).1 (dprC x).2) x :=
    hasDerivAt_rotC x
  open scoped Matrix.Norms.L2Operator in
  exact ((((hR.const_mul A).mul_const B).mul hR).mul_const C).congr_deriv
    (by simp only [Matrix.add_mul])

/-- the product with the factor at position `p` replaced by its derivative -/
noncomputable def UcircD (θ : ℝ) (φs : List ℝ) (p : ℕ) : M22 :=
  UcircPairs θ ((φs.map prC).set p (dprC (φs.getD p 0)))

theorem UcircD_eq_Ucirc (θ : ℝ) (φs : List ℝ) (p : ℕ) :
    UcircD θ φs p = Ucirc θ (φs.set p (φs.getD p 0 + Real.pi / 2)) := by
  rw [UcircD, dprC_eq, ← List.map_set, ← Ucirc_eq_pairs]

theorem hasDerivAt_Ucirc_set_two (θ : ℝ) (φs : List ℝ) (p q : ℕ) (hpq : p < q)
    (hq : q < φs.length) (x : ℝ) :
    HasDerivAt (fun t => Ucirc θ ((φs.set p t).set q t))
      (UcircD θ ((φs.set p x).set q x) p + UcircD θ ((φs.set p x).set q x) q) x := by
  have h := hasDerivAt_pairs_two θ (φs.map prC) p q hpq (by simpa using hq) x
  have hp : p < φs.length := by omega
  simp only [Ucirc_eq_pairs, UcircD, List.map_set]
  rwa [List.getD_eq_getElem _ _ (by simpa using hp), List.getD_eq_getElem _ _ (by simpa using hq),
    List.getElem_set_self, List.getElem_set_ne (by omega), List.getElem_set_self,
    List.set_set, List.set_comm _ _ (by omega : p ≠ q), List.set_set,
    List.set_comm _ _ (by omega : q ≠ p)]

theorem hasDerivAt_Ucirc_set_comp (θ : ℝ) (φs : List ℝ) (p : ℕ) (hp : p < φs.length)
    (u : ℝ → ℝ) (u' x : ℝ) (hu : HasDerivAt u u' x) :
    HasDerivAt (fun t => Ucirc θ (φs.set p (u t))) ((u' : ℂ) • UcircD θ (φs.set p (u x)) p) x := by
  have h := hasDerivAt_pairs_one θ (φs.map prC) p (by simpa using hp) u u' x hu
  simp only [Ucirc_eq_pairs, UcircD, List.map_set]
  rwa [List.getD_eq_getElem _ _ (by simpa using hp), List.getElem_set_self, List.set_set]

/-! ## chain rule for a reduced phase -/

/-- the partial derivative of `Ucirc θ (layout par red)` with respect to reduced phase `j`
    (`hasDerivAt_layout`); the Jacobian routine evaluates its `<+|·|+>` corner -/
noncomputable def jacD (θ : ℝ) (par : ℕ) (red : List ℝ) (j : ℕ) : M22 :=
  ((positions par red.length j).map (fun pk : ℕ × ℚ =>
      (((pk.2 : ℚ) : ℝ) : ℂ) • UcircD θ (layout (par : ℤ) red) pk.1)).sum

/-- In each of the three shapes of `positions` the layout of `red.set j t` is the layout of `red`
    with `t` (or `2t`) written at those positions; at `t = red_j` it is the layout itself. -/
theorem hasDerivAt_layout (θ : ℝ) (par : ℕ) (red : List ℝ) (j : ℕ) (hj : j < red.length) :
    HasDerivAt (fun t => Ucirc θ (layout (par : ℤ) (red.set j t))) (jacD θ par red j)
      (red.getD j 0) := by
  have hself : red.set j (red.getD j 0) = red := set_getD_self red j 0 hj
  by_cases hpar : par = 1
  · subst hpar
    rw [Nat.cast_one]
    have hlen : (layout 1 red).length = 2 * red.length := by rw [layout_length, if_pos rfl]
    have h := hasDerivAt_Ucirc_set_two θ (layout 1 red) (red.length - 1 - j) (red.length + j)
      (by omega) (by omega) (red.getD j 0)
    simp only [← layout_odd_set red j hj, hself] at h
    -- left to show, here and in the two cases below: `jacD` is the derivative `h` found, i.e. the
    -- sum over `positions` written out (two mirror positions with factor 1, or the centre with 2)
    convert h using 1
    simp only [jacD, positions, if_true, Nat.cast_one, List.map_cons, List.map_nil, List.sum_cons,
      List.sum_nil, Rat.cast_one, Complex.ofReal_one, one_smul, add_zero]
  · have hparZ : (par : ℤ) ≠ 1 := by exact_mod_cast hpar
    obtain _ | ⟨x0, rest⟩ := red
    · simp at hj
    have hlen : (layout (par : ℤ) (x0 :: rest)).length = 2 * (rest.length + 1) - 1 := by
      rw [layout_length, if_neg hparZ, List.length_cons]
    rw [List.length_cons] at hj
    obtain _ | j := j
    · have hu : HasDerivAt (fun t : ℝ => (two : ℝ) * t) 2 ((x0 :: rest).getD 0 0) :=
        (hasDerivAt_const_mul (two : ℝ)).congr_deriv one_add_one_eq_two
      have h := hasDerivAt_Ucirc_set_comp θ (layout (par : ℤ) (x0 :: rest)) rest.length
        (by omega) _ 2 _ hu
      simp only [← layout_even_set_zero (par : ℤ) hparZ, hself] at h
      convert h using 1
      simp only [jacD, positions, if_neg hpar, if_true, List.length_cons, Nat.add_sub_cancel,
        List.map_cons, List.map_nil, List.sum_cons, List.sum_nil, Rat.cast_ofNat,
        Complex.ofReal_ofNat, add_zero]
    · have hj' : j < rest.length := by omega
      have h := hasDerivAt_Ucirc_set_two θ (layout (par : ℤ) (x0 :: rest))
        (rest.length - 1 - j) (rest.length + 1 + j) (by omega) (by omega)
        ((x0 :: rest).getD (j + 1) 0)
      simp only [← layout_even_set_succ (par : ℤ) hparZ x0 rest j hj', hself] at h
      convert h using 1
      simp only [jacD, positions, if_neg hpar, if_neg (Nat.succ_ne_zero j), List.length_cons,
        Nat.add_sub_cancel, Nat.sub_sub, Nat.add_comm 1 j, Nat.add_assoc, List.map_cons,
        List.map_nil, List.sum_cons, List.sum_nil, Rat.cast_one, Complex.ofReal_one, one_smul,
        add_zero]

/-! ## the quantity the Jacobian routine differentiates: `Im <0|U_x(a)|0>` -/

theorem hasDerivAt_resp_layout (θ : ℝ) (hθ : 0 ≤ Real.sin θ) (par : ℕ) (red : List ℝ) (j : ℕ)
    (hj : j < red.length) :
    HasDerivAt (fun t => respDef .Wx .z (layout (par : ℤ) (red.set j t)) (Real.cos θ))
      (brG .x (jacD θ par red j)) (red.getD j 0) := by
  simpa only [Ucirc_corner_eq_Wx_z θ hθ] using hasDerivAt_brG_x (hasDerivAt_layout θ par red j hj)

theorem hasDerivAt_resp_layout_im (θ : ℝ) (hθ : 0 ≤ Real.sin θ) (par : ℕ) (red : List ℝ) (j : ℕ)
    (hj : j < red.length) :
    HasDerivAt (fun t => (respDef .Wx .z (layout (par : ℤ) (red.set j t)) (Real.cos θ)).im)
      ((brG .x (jacD θ par red j)).im) (red.getD j 0) :=
  hasDerivAt_im_real (hasDerivAt_resp_layout θ hθ par red j hj)

/-! ## what `LA.fromAngles` and `symHalf` compute on rational pairs -/

/-- the element `jacSpec` computes for one position of a reduced phase -/
theorem fromAngles_derivPair_eval (ps : List (ℚ × ℚ)) (pos : ℕ) (hpos : pos < ps.length) (k : ℚ)
    (g : LA ℚ)
    (h : LA.fromAngles (ps.set pos (derivPair (ps.getD pos (1, 0)) k)) = .ok g) (θ : ℝ) :
    evMat g θ = (((k : ℚ) : ℝ) : ℂ) •
      UcircPairs θ ((ps.map castP).set pos
        (-(((ps.getD pos (1, 0)).2 : ℝ) : ℂ), (((ps.getD pos (1, 0)).1 : ℝ) : ℂ))) := by
  rw [fromAngles_eval_pairs _ g h θ, List.map_set,
    ← UcircPairs_set_smul θ _ pos (by simpa using hpos)]
  congr 2
  simp only [castP, derivPair]
  push_cast
  ext <;> simp

theorem half_im (a b : ℝ) :
    ((1 / 2 : ℂ) * (((2 * a : ℝ) : ℂ) + I * ((2 * b : ℝ) : ℂ))).im = b := by
  simp

/-- `symHalf g.X` is the polynomial `imCheb` reads its coefficients from -/
theorem symHalf_X_eq_corner_im (g : LA ℚ) (hg : g.WF) (sb : LP ℚ) (h : symHalf g.X = .ok sb)
    (θ : ℝ) : evQ sb θ = (((brG .x (evMat g θ)).im : ℝ) : ℂ) := by
  rw [(symHalf_spec g.X sb hg.2 h θ).1, QSP.brG_x, evMat_00, evMat_01, evMat_10, evMat_11,
    evQ_neg_conj g.X θ, evQ_neg_conj g.I θ,
    show evQ g.I θ + I * evQ g.X θ + I * (starRingEnd ℂ) (evQ g.X θ) + (starRingEnd ℂ) (evQ g.I θ)
      = (evQ g.I θ + (starRingEnd ℂ) (evQ g.I θ))
        + I * (evQ g.X θ + (starRingEnd ℂ) (evQ g.X θ)) by ring,
    Complex.add_conj, Complex.add_conj, half_im]
  push_cast
  ring

/-! ## `imCheb` returns the Chebyshev coefficients of `Im <+| · |+>`

The element computed by `LA.fromAngles` from `n+1` pairs is stored on the `n+1` powers
`w^{-n}, w^{-n+2}, …, w^{n}`; hence so is `symHalf g.X`, which is moreover symmetric.  Its
coefficients at the powers `2k + par` (doubled for a non-zero power) are therefore ALL the cosine
coefficients of `θ ↦ Im <+| evMat g θ |+>`. -/

section window
open LaurentPolynomial

/-- `f` is stored on the `n+1` powers `-n, -n+2, …, n` -/
def Win (n : ℕ) (f : ℚ[T;T⁻¹]) : Prop :=
  ∃ l : List ℚ, l.length = n + 1 ∧ f = denL l (-(n : ℤ))

theorem Win.C_mul {n : ℕ} {f : ℚ[T;T⁻¹]} (c : ℚ) (h : Win n f) : Win n (C c * f) := by
  obtain ⟨l, hl, rfl⟩ := h
  exact ⟨l.map (c * ·), by simp [hl], (denL_map_mul c l _).symm⟩

theorem Win.add {n : ℕ} {f g : ℚ[T;T⁻¹]} (hf : Win n f) (hg : Win n g) : Win n (f + g) := by
  obtain ⟨l, hl, rfl⟩ := hf
  obtain ⟨l', hl', rfl⟩ := hg
  exact ⟨addL l l', by rw [length_addL, hl, hl', max_self], (denL_addL l l' _).symm⟩

theorem Win.invert {n : ℕ} {f : ℚ[T;T⁻¹]} (h : Win n f) : Win n (invert f) := by
  obtain ⟨l, hl, rfl⟩ := h
  exact ⟨l.reverse, by simp [hl], (denL_reverse_sym hl).symm⟩

theorem Win.coeff_ne_zero {n : ℕ} {f : ℚ[T;T⁻¹]} (h : Win n f) {m : ℤ} (hm : f.coeff m ≠ 0) :
    (m + n) % 2 = 0 ∧ -(n : ℤ) ≤ m ∧ m ≤ n := by
  obtain ⟨l, hl, rfl⟩ := h
  have := denL_coeff_ne_zero hm
  rw [hl] at this
  push_cast at this
  omega

theorem fromAngles_Win {ps : List (ℚ × ℚ)} {n : ℕ} (hlen : ps.length = n + 1) {g : LA ℚ}
    (h : LA.fromAngles ps = .ok g) : Win n (den g.I) ∧ Win n (den g.X) := by
  obtain ⟨-, rg⟩ := DS.fromAngles_ok hlen h
  obtain ⟨-, -, lI, lX⟩ := rg.shape
  exact ⟨⟨_, lI, by rw [den, rg.dmin_I]⟩, ⟨_, lX, by rw [den, rg.dmin_X]⟩⟩

theorem den_symHalf (p s : LP ℚ) (hp : p.WF) (h : symHalf p = .ok s) :
    den s = C (1 / 2 : ℚ) * (den p + invert (den p)) := by
  unfold symHalf at h
  obtain ⟨a, ha, h⟩ := bind_ok h
  cases h
  have hi := den_inv p hp
  obtain ⟨a1, a2⟩ := add_ok hp hi.2 ha
  rw [(den_smul _ a a2).1, a1, hi.1]

theorem invert_add_self_eq {S P : ℚ[T;T⁻¹]} (hsym : invert S = S)
    (hpos : ∀ m : ℤ, 0 < m → P.coeff m = S.coeff m) (hneg : ∀ m : ℤ, m < 0 → P.coeff m = 0)
    (h0 : 2 * P.coeff 0 = S.coeff 0) : invert P + P = S := by
  ext m
  rw [AddMonoidAlgebra.coeff_add, Finsupp.add_apply, invert_apply]
  rcases lt_trichotomy m 0 with h | rfl | h
  · rw [hneg m h, add_zero, hpos (-m) (neg_pos.mpr h), ← invert_apply, hsym]
  · rw [neg_zero, ← two_mul, h0]
  · rw [hneg (-m) (neg_neg_of_pos h), zero_add, hpos m h]

/-- a symmetric polynomial stored on the powers `-n, …, n`, `n = 2(d-1)+par`, IS the Laurent
    form `chebToLP par f` of the list `f` of its (doubled) coefficients at `2k + par`: the halved
    list `f/2`, placed at the powers `par, par + 2, …`, is its upper half (`invert_add_self_eq`) -/
theorem den_chebToLP_of_coeffs (par d n : ℕ) (hpar : par ≤ 1) (hn : n + 2 = 2 * d + par)
    (S : ℚ[T;T⁻¹]) (hW : Win n S) (hsym : invert S = S) (f : List ℚ) (hlen : f.length = d)
    (hf : ∀ k < d, f.getD k 0 = (if (2 * (k : ℤ) + (par : ℤ)) = 0 then (1 : ℚ) else 2)
      * S.coeff (2 * (k : ℤ) + (par : ℤ))) :
    den (chebToLP par f) = S := by
  have hz : ∀ m : ℤ, (m - par) % 2 ≠ 0 ∨ (n : ℤ) < m → S.coeff m = 0 := by
    intro m hm
    by_contra hne
    have := hW.coeff_ne_zero hne
    omega
  have half : ∀ i : ℕ, (denL (f.map (· / 2)) par).coeff (par + 2 * i)
      = S.coeff (par + 2 * i) * (if (par : ℤ) + 2 * i = 0 then 1 / 2 else 1) := by
    intro i
    rw [denL_coeff_grid, getD_map_of_eq (· / 2) (zero_div 2), add_comm (par : ℤ)]
    by_cases hi : i < d
    · rw [hf i hi]
      split_ifs <;> ring
    · rw [List.getD_eq_default _ _ (hlen.le.trans (not_lt.mp hi)), hz _ (Or.inr (by omega)),
        zero_div, zero_mul]
  rw [den_chebToLP, Nat.mod_eq_of_lt (Nat.lt_succ_of_le hpar)]
  refine invert_add_self_eq hsym (fun m hm => ?_)
    (fun m hm => denL_coeff_of_lt (hm.trans_le (Int.natCast_nonneg par))) ?_
  · by_cases hm2 : (m - par) % 2 = 0
    · obtain ⟨i, hi⟩ := Int.dvd_of_emod_eq_zero hm2
      lift i to ℕ using by omega
      obtain rfl : m = par + 2 * i := eq_add_of_sub_eq' hi
      rw [half, if_neg hm.ne', mul_one]
    · rw [denL_coeff_of_odd hm2, hz m (Or.inl hm2)]
  · obtain rfl | rfl := Nat.le_one_iff_eq_zero_or_eq_one.mp hpar
    · have h := half 0
      simp only [Nat.cast_zero, mul_zero, add_zero, if_true] at h ⊢
      rw [h]
      ring
    · rw [denL_coeff_of_lt (by norm_num), hz 0 (Or.inl (by norm_num)), mul_zero]

theorem imCheb_getD (par d : ℕ) (g : LA ℚ) (f : List ℚ) (h : imCheb par d g = .ok f) :
    ∃ sb, symHalf g.X = .ok sb ∧ f.length = d ∧ ∀ k < d,
      f.getD k 0 = (if (2 * (k : ℤ) + (par : ℤ)) = 0 then (1 : ℚ) else 2)
        * (den sb).coeff (2 * (k : ℤ) + (par : ℤ)) := by
  unfold imCheb at h
  obtain ⟨sb, hsb, h⟩ := bind_ok h
  injection h with h
  subst h
  refine ⟨sb, hsb, by rw [List.length_map, List.length_range], fun k hk => ?_⟩
  rw [List.getD_eq_getElem _ _ (by rwa [List.length_map, List.length_range]), List.getElem_map,
    List.getElem_range]
  dsimp only
  rw [getItem_eq]
  rfl

theorem imCheb_spec (par d : ℕ) (hpar : par ≤ 1) (ps : List (ℚ × ℚ))
    (hlen : ps.length + 1 = 2 * d + par) (g : LA ℚ) (hg : LA.fromAngles ps = .ok g)
    (f : List ℚ) (hf : imCheb par d g = .ok f) (θ : ℝ) :
    f.length = d ∧
    (brG .x (UcircPairs θ (ps.map castP))).im
      = ∑ k ∈ Finset.range d, ((f.getD k 0 : ℚ) : ℝ) * Real.cos (((2 * k + par : ℕ) : ℝ) * θ) := by
  obtain ⟨sb, hsb, hl, hcoef⟩ := imCheb_getD par d g f hf
  obtain ⟨n, hn⟩ : ∃ n, ps.length = n + 1 := by
    cases ps with
    | nil => rw [fromAngles_nil] at hg; cases hg
    | cons c cs => exact ⟨cs.length, rfl⟩
  have gWF : g.WF := (DS.fromAngles_ok hn hg).2.1.wf
  have hWX := (fromAngles_Win hn hg).2
  have hden := den_symHalf g.X sb gWF.2 hsb
  have hW : Win n (den sb) := by rw [hden]; exact (hWX.add hWX.invert).C_mul _
  have hsym : invert (den sb) = den sb := by
    ext m
    rw [hden, invert_apply, coeff_C_mul, coeff_C_mul, AddMonoidAlgebra.coeff_add,
      Finsupp.add_apply, Finsupp.add_apply, invert_apply, invert_apply, neg_neg, add_comm]
  have hD := den_chebToLP_of_coeffs par d n hpar (by omega) (den sb) hW hsym f hl hcoef
  have e : evQ sb θ = evQ (chebToLP par f) θ := by rw [evQ_eq, evQ_eq, hD]
  rw [(chebToLP_spec par f θ).1, symHalf_X_eq_corner_im g gWF sb hsb θ,
    fromAngles_eval_pairs ps g hg θ, Nat.mod_eq_of_lt (Nat.lt_succ_of_le hpar), hl] at e
  exact ⟨hl, Complex.ofReal_injective e⟩

end window

/-! ## the specification-level Jacobian `jacSpec`

### the product-rule functional over arbitrary pairs -/

/-- `jacD` over ARBITRARY pairs: the pair `(c, s)` at a position replaced by `(−s, c)` -/
noncomputable def jacDPairs (θ : ℝ) (par d : ℕ) (l : List (ℂ × ℂ)) (j : ℕ) : M22 :=
  ((positions par d j).map (fun pk : ℕ × ℚ => (((pk.2 : ℚ) : ℝ) : ℂ) •
      UcircPairs θ (l.set pk.1 (-(l.getD pk.1 (1, 0)).2, (l.getD pk.1 (1, 0)).1)))).sum

theorem jacD_eq_jacDPairs (θ : ℝ) (par : ℕ) (red : List ℝ) (j : ℕ) :
    jacD θ par red j
      = jacDPairs θ par red.length ((layout (par : ℤ) red).map prC) j := by
  unfold jacD jacDPairs UcircD
  congr 2
  funext pk
  rw [getD_map_of_eq prC prC_zero]
  rfl

/-- the functional whose cosine coefficients `jacSpec` tabulates at the enclosure centres
    (`jacSpec_spec`) is, at the exact pairs `(cos φ, sin φ)` of the full phase list, the true
    partial derivative of `Im <0|U_x(cos θ)|0>` with respect to reduced phase `j` -/
theorem hasDerivAt_resp_layout_im_pairs (θ : ℝ) (hθ : 0 ≤ Real.sin θ) (par : ℕ) (red : List ℝ)
    (j : ℕ) (hj : j < red.length) :
    HasDerivAt (fun t => (respDef .Wx .z (layout (par : ℤ) (red.set j t)) (Real.cos θ)).im)
      ((brG .x (jacDPairs θ par red.length ((layout (par : ℤ) red).map prC) j)).im)
      (red.getD j 0) := by
  rw [← jacD_eq_jacDPairs]
  exact hasDerivAt_resp_layout_im θ hθ par red j hj

/-! ### cosine series of rational coefficient lists -/

noncomputable def cosGen (par d : ℕ) (c : List ℚ) (θ : ℝ) : ℝ :=
  ∑ k ∈ Finset.range d, ((c.getD k 0 : ℚ) : ℝ) * Real.cos (((2 * k + par : ℕ) : ℝ) * θ)

theorem cosGen_addLists (par d : ℕ) (a b : List ℚ) (ha : a.length = d) (hb : b.length = d)
    (θ : ℝ) :
    (addLists a b).length = d ∧
      cosGen par d (addLists a b) θ = cosGen par d a θ + cosGen par d b θ := by
  refine ⟨by simp [addLists, ha, hb], ?_⟩
  unfold cosGen
  rw [← Finset.sum_add_distrib]
  refine Finset.sum_congr rfl fun k hk => ?_
  have hk' : k < d := Finset.mem_range.mp hk
  have e : (addLists a b).getD k 0 = a.getD k 0 + b.getD k 0 := by
    rw [List.getD_eq_getElem _ _ (by simp [addLists, ha, hb, hk']),
      List.getD_eq_getElem _ _ (by omega), List.getD_eq_getElem _ _ (by omega)]
    simp [addLists]
  rw [e]
  push_cast
  ring

theorem cosGen_replicate_zero (par d : ℕ) (θ : ℝ) :
    cosGen par d (List.replicate d 0) θ = 0 := by
  unfold cosGen
  refine Finset.sum_eq_zero fun k hk => ?_
  have hk' : k < d := Finset.mem_range.mp hk
  rw [List.getD_eq_getElem _ _ (by simpa using hk')]
  simp

theorem cosGen_foldl (par d : ℕ) (θ : ℝ) (pks : List (ℕ × ℚ)) (parts : List (List ℚ))
    (term : ℕ × ℚ → M22)
    (h : List.Forall₂ (fun pk part => part.length = d ∧
      cosGen par d part θ = (brG .x (term pk)).im) pks parts)
    (acc : List ℚ) (hacc : acc.length = d) :
    (parts.foldl addLists acc).length = d ∧
      cosGen par d (parts.foldl addLists acc) θ
        = cosGen par d acc θ + (brG .x ((pks.map term).sum)).im := by
  induction h generalizing acc with
  | nil => simp [hacc, brG_zero]
  | cons hab _ ih =>
    obtain ⟨h1, h2⟩ := hab
    obtain ⟨l1, l2⟩ := cosGen_addLists par d acc _ hacc h1 θ
    obtain ⟨i1, i2⟩ := ih _ l1
    refine ⟨by simpa using i1, ?_⟩
    rw [List.foldl_cons, i2, l2, h2, List.map_cons, List.sum_cons, brG_add, Complex.add_im]
    ring

/-! ### what `jacSpec` returns -/

/-- the complex pairs `jacSpec` works with: the rational enclosure centres of
    `(cos φ, sin φ)` for the full phase list -/
noncomputable def specPairs (par bits : ℕ) (reduced : List ℚ) : List (ℂ × ℂ) :=
  ((enclList bits (layout (par : ℤ) reduced)).map Encl.pair).map castP

theorem positions_valid (par d j : ℕ) (hpar : par ≤ 1) (hj : j < d) :
    ∀ pk ∈ positions par d j, pk.1 + 1 < 2 * d + par := by
  unfold positions
  split_ifs <;> simp only [List.forall_mem_cons, List.not_mem_nil, false_imp_iff, implies_true,
    and_true] <;> omega

theorem jacPairs_length (par : ℕ) (hpar : par ≤ 1) (bits : ℕ) (reduced : List ℚ)
    (hr : reduced ≠ []) :
    ((enclList bits (layout (par : ℤ) reduced)).map Encl.pair).length + 1
      = 2 * reduced.length + par := by
  rw [List.length_map, enclList, List.length_map]
  exact layout_length_par par hpar reduced hr

theorem mapM_forall₂ {α β : Type} {f : α → Except Err β} {l : List α} {r : List β}
    (h : l.mapM f = .ok r) : List.Forall₂ (fun a b => f a = .ok b) l r := by
  induction l generalizing r with
  | nil =>
    rw [List.mapM_nil] at h
    cases h
    exact List.Forall₂.nil
  | cons a l ih =>
    rw [List.mapM_cons] at h
    obtain ⟨b, hb, h⟩ := bind_ok h
    obtain ⟨bs, hbs, h⟩ := bind_ok h
    cases h
    exact List.Forall₂.cons hb (ih hbs)

theorem jacSpec_eq (par bits : ℕ) (red : List ℚ) :
    jacSpec par bits red = (do
      let f ← jacF par bits red
      let cols ← (List.range red.length).mapM (jacCol par bits red)
      .ok (f, cols)) := by
  unfold jacSpec jacF jacCol
  simp only [bind_assoc]

theorem jacSpec_inv (par bits : ℕ) (red f : List ℚ) (cols : List (List ℚ))
    (h : jacSpec par bits red = .ok (f, cols)) :
    jacF par bits red = .ok f ∧
      List.Forall₂ (fun j col => jacCol par bits red j = .ok col) (List.range red.length) cols := by
  rw [jacSpec_eq] at h
  obtain ⟨f', hf, h⟩ := bind_ok h
  obtain ⟨cols', hc, h⟩ := bind_ok h
  cases h
  exact ⟨hf, mapM_forall₂ hc⟩

theorem jacSpec_parts (par bits : Nat) (red : List Rat) (f : List Rat) (cols : List (List Rat))
    (h : jacSpec par bits red = .ok (f, cols)) :
    jacF par bits red = .ok f ∧
      ∀ j, j < red.length → jacCol par bits red j = .ok (cols.getD j []) := by
  obtain ⟨hf, hF⟩ := jacSpec_inv par bits red f cols h
  refine ⟨hf, fun j hj => ?_⟩
  have hj' : j < cols.length := by rw [← hF.length_eq, List.length_range]; exact hj
  have := hF.get (i := j) (by simpa using hj) hj'
  rwa [List.get_eq_getElem, List.getElem_range, List.get_eq_getElem,
    ← List.getD_eq_getElem _ [] hj'] at this

theorem jacF_spec (par : ℕ) (hpar : par ≤ 1) (bits : ℕ) (reduced f : List ℚ)
    (h : jacF par bits reduced = .ok f) :
    f.length = reduced.length ∧ ∀ θ : ℝ,
      (brG .x (UcircPairs θ (specPairs par bits reduced))).im
        = cosGen par reduced.length f θ := by
  unfold jacF at h
  obtain ⟨g, hg, hf⟩ := bind_ok h
  have hred : reduced ≠ [] := by
    rintro rfl
    rw [layout_nil] at hg
    cases hg
  have hsp := imCheb_spec par reduced.length hpar _ (jacPairs_length par hpar bits reduced hred)
    g hg f hf
  exact ⟨(hsp 0).1, fun θ => (hsp θ).2⟩

theorem jacCol_spec (par : ℕ) (hpar : par ≤ 1) (bits : ℕ) (reduced : List ℚ) (j : ℕ)
    (hj : j < reduced.length) (col : List ℚ) (h : jacCol par bits reduced j = .ok col) :
    col.length = reduced.length ∧ ∀ θ : ℝ,
      (brG .x (jacDPairs θ par reduced.length (specPairs par bits reduced) j)).im
        = cosGen par reduced.length col θ := by
  -- position by position (`key`): the list `imCheb` returns for the product with the derivative pair
  -- at `pos` expands the matching term of `jacDPairs` (`imCheb_spec`, `fromAngles_derivPair_eval`);
  -- `cosGen_foldl` then adds the positions up
  unfold jacCol at h
  obtain ⟨parts, hparts, hc⟩ := bind_ok h
  cases hc
  set d := reduced.length
  set pairs := (enclList bits (layout (par : ℤ) reduced)).map Encl.pair
  have hlenP : pairs.length + 1 = 2 * d + par :=
    jacPairs_length par hpar bits reduced (ne_nil_of_lt_length hj)
  have hP := (List.forall₂_and_left _ _).mpr ⟨positions_valid par d j hpar hj, mapM_forall₂ hparts⟩
  set sp := specPairs par bits reduced with hspec
  have key : ∀ θ : ℝ, List.Forall₂ (fun (pk : ℕ × ℚ) (part : List ℚ) => part.length = d ∧
      cosGen par d part θ = (brG .x ((((pk.2 : ℚ) : ℝ) : ℂ) • UcircPairs θ
        (sp.set pk.1 (-(sp.getD pk.1 (1, 0)).2, (sp.getD pk.1 (1, 0)).1)))).im)
      (positions par d j) parts := by
    intro θ
    refine hP.imp ?_
    rintro ⟨pos, k⟩ part ⟨hv, hFpk⟩
    dsimp only at hv hFpk ⊢
    obtain ⟨gj, hgj, hpart⟩ := bind_ok hFpk
    have hsp := imCheb_spec par d hpar _ (by rw [List.length_set]; exact hlenP) gj hgj part hpart θ
    refine ⟨hsp.1, ?_⟩
    unfold cosGen
    rw [← hsp.2, ← fromAngles_eval_pairs _ gj hgj θ,
      fromAngles_derivPair_eval pairs pos (by omega) k gj hgj θ]
    rw [hspec, specPairs, getD_map_of_eq castP castP_one_zero]
    rfl
  have main := fun θ => cosGen_foldl par d θ _ _ _ (key θ) (List.replicate d 0)
    (List.length_replicate ..)
  refine ⟨(main 0).1, fun θ => ?_⟩
  rw [(main θ).2, cosGen_replicate_zero, zero_add]
  rfl

theorem jacSpec_spec (par : ℕ) (hpar : par ≤ 1) (bits : ℕ) (reduced : List ℚ) (f : List ℚ)
    (cols : List (List ℚ)) (h : jacSpec par bits reduced = .ok (f, cols)) :
    f.length = reduced.length ∧ cols.length = reduced.length ∧
    (∀ θ : ℝ, (brG .x (UcircPairs θ (specPairs par bits reduced))).im
      = cosGen par reduced.length f θ) ∧
    ∀ j < reduced.length, (cols.getD j []).length = reduced.length ∧ ∀ θ : ℝ,
      (brG .x (jacDPairs θ par reduced.length (specPairs par bits reduced) j)).im
        = cosGen par reduced.length (cols.getD j []) θ := by
  obtain ⟨hf, hF⟩ := jacSpec_inv par bits reduced f cols h
  obtain ⟨hlen, hval⟩ := jacF_spec par hpar bits reduced f hf
  refine ⟨hlen, by rw [← hF.length_eq, List.length_range], hval, fun j hj => ?_⟩
  exact jacCol_spec par hpar bits reduced j hj _
    ((jacSpec_parts par bits reduced f cols h).2 j hj)

/-! ### non-vacuity: a kernel-checked run of `jacSpec` (both parities) -/

example : (jacSpec 1 10 [1 / 4, 1 / 3]).map (fun r => (r.1.length, r.2.map List.length))
    = .ok (2, [2, 2]) := by decide +kernel

example : (jacSpec 0 10 [1 / 4, 1 / 3]).map (fun r => (r.1.length, r.2.map List.length))
    = .ok (2, [2, 2]) := by decide +kernel

end QSP
