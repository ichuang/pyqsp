/-
  Soundness of `fromAnglesBall` (`QSP/Model/Ball.lean`): the Low-algebra element computed exactly
  from the centres of enclosures of `(cos φ_k, sin φ_k)` is, at every point `e^{iθ}` of the circle,
  within the returned bound (spectral norm) of the ordered product `Ucirc θ φs` of the true
  X-rotations and diagonal signals (`fromAngles_encl_sound` for any enclosures,
  `fromAnglesBall_sound` for those of `enclList`).  On the upper half circle `Ucirc θ` is the
  product of the definition of the response (`QSP/Proofs/RespDef.lean`) at the signal `cos θ`.
  Last, the soundness of the gauge validator `validC06` (`QSP/Model/Validators.lean`).
-/
import QSP.Model.Validators
import QSP.Proofs.Response
import QSP.Proofs.AnglesEval
import Mathlib.Analysis.SpecialFunctions.Trigonometric.Inverse
import Mathlib.Data.Sign.Basic
import Mathlib.Data.List.GetD
import Mathlib.Data.List.Forall2

open Matrix Complex
open scoped Matrix.Norms.L2Operator
namespace QSP

/-- the Wz-convention sequence at the circle point `e^{iθ}`, for every real `θ`:
    `R(φ₀) · (W(θ) R(φ₁)) ··· (W(θ) R(φ_n))`, `R(φ) = e^{iφX}`, `W(θ) = diag(e^{iθ}, e^{-iθ})` -/
noncomputable def Ucirc (θ : ℝ) : List ℝ → M22
  | [] => 1
  | φ :: φs => φs.foldl (fun U ψ => U * (wC θ * rotC (Real.cos ψ) (Real.sin ψ)))
      (rotC (Real.cos φ) (Real.sin φ))

noncomputable def prC (φ : ℝ) : ℂ × ℂ := (((Real.cos φ : ℝ) : ℂ), ((Real.sin φ : ℝ) : ℂ))

theorem prC_zero : prC 0 = (1, 0) := by simp [prC]

theorem Ucirc_eq_pairs (θ : ℝ) (φs : List ℝ) : Ucirc θ φs = UcircPairs θ (φs.map prC) := by
  cases φs with
  | nil => rfl
  | cons φ φs => simp only [Ucirc, UcircPairs, List.map_cons, List.foldl_map, prC]

/-! ## `Ucirc` is the product of the definition (upper half circle) -/

theorem Ucirc_eq_Udef (θ : ℝ) (hθ : 0 ≤ Real.sin θ) (φs : List ℝ) :
    Ucirc θ φs = Udef .Wz (Real.cos θ) φs := by
  cases φs with
  | nil => rfl
  | cons φ φs => rw [Udef_Wz_eq_prod θ hθ]; rfl

theorem norm_Ucirc_le (θ : ℝ) (ψs : List ℝ) : ‖Ucirc θ ψs‖ ≤ 1 := by
  cases ψs with
  | nil => exact norm_one_M22.le
  | cons ψ ψs =>
    exact List.foldlRecOn (motive := fun U : M22 => ‖U‖ ≤ 1) ψs _ (norm_rotC_unit_le ψ)
      fun U hU φ _ => norm_mul_le_one hU (norm_mul_le_one (norm_wC_le θ) (norm_rotC_unit_le φ))

/-! ## soundness of `fromAnglesBall` -/

/-- `e` encloses `(cos ψ, sin ψ)`: both centres are within `e.δ` -/
def EnclOK (e : Encl) (ψ : ℝ) : Prop :=
  |Real.cos ψ - (e.c : ℝ)| ≤ (e.δ : ℝ) ∧ |Real.sin ψ - (e.s : ℝ)| ≤ (e.δ : ℝ)

theorem EnclOK.shift {e : Encl} {ψ : ℝ} (h : EnclOK e ψ) :
    EnclOK ⟨-e.s, e.c, e.δ⟩ (ψ + Real.pi / 2) := by
  unfold EnclOK at h ⊢
  rw [Real.cos_add_pi_div_two, Real.sin_add_pi_div_two, Rat.cast_neg, neg_sub_neg, abs_sub_comm]
  exact ⟨h.2, h.1⟩

theorem norm_rotC_sub_le (c s c' s' : ℝ) :
    ‖rotC (c : ℂ) (s : ℂ) - rotC (c' : ℂ) (s' : ℂ)‖ ≤ |c - c'| + |s - s'| := by
  rw [rotC_sub, ← Complex.ofReal_sub, ← Complex.ofReal_sub]
  exact (norm_rotC_le _ _).trans_eq (by rw [Complex.norm_real, Complex.norm_real]; rfl)

theorem rot_encl (e : Encl) (ψ : ℝ) (h : EnclOK e ψ) :
    ‖rotC ((Real.cos ψ : ℝ) : ℂ) ((Real.sin ψ : ℝ) : ℂ) - rotC ((e.c : ℝ) : ℂ) ((e.s : ℝ) : ℂ)‖
      ≤ ((2 * e.δ : ℚ) : ℝ) ∧
    ‖rotC ((e.c : ℝ) : ℂ) ((e.s : ℝ) : ℂ)‖ ≤ ((1 + 2 * e.δ : ℚ) : ℝ) := by
  have h1 := (norm_rotC_sub_le _ _ _ _).trans (add_le_add h.1 h.2)
  exact ⟨h1.trans_eq (by push_cast; ring),
    (norm_le_one_add (norm_rotC_unit_le ψ) h1).trans_eq (by push_cast; ring)⟩

theorem encl_fold_err (θ : ℝ) (es : List Encl) (ψs : List ℝ) (hF : List.Forall₂ EnclOK es ψs)
    (x x' : M22) (P E : ℚ) (hP : ‖x'‖ ≤ ((P : ℚ) : ℝ)) (hE : ‖x - x'‖ ≤ ((E : ℚ) : ℝ)) :
    ‖ψs.foldl (fun U ψ => U * (wC θ * rotC ((Real.cos ψ : ℝ) : ℂ) ((Real.sin ψ : ℝ) : ℂ))) x
        - (es.map Encl.pair).foldl
            (fun U e => U * (wC θ * rotC ((e.1 : ℝ) : ℂ) ((e.2 : ℝ) : ℂ))) x'‖
      ≤ (((prodErr (es.map Encl.rotBound) (P, E)).2 : ℚ) : ℝ) ∧
    0 ≤ (prodErr (es.map Encl.rotBound) (P, E)).2 := by
  have := prodErr_forall₂ (fun ψ : ℝ => wC θ * rotC ((Real.cos ψ : ℝ) : ℂ) ((Real.sin ψ : ℝ) : ℂ))
    (fun e : Encl => wC θ * rotC ((e.c : ℝ) : ℂ) ((e.s : ℝ) : ℂ)) Encl.rotBound
    (hF.imp fun e ψ h => norm_mul_left_le (norm_wC_le θ) (rot_encl e ψ h).2 (rot_encl e ψ h).1)
    x x' P E hP hE
  rw [List.foldl_map]
  exact ⟨this.2.1, this.2.2.2⟩

theorem fromAngles_encl_sound (es : List Encl) (ψs : List ℝ) (hF : List.Forall₂ EnclOK es ψs)
    (g : LA ℚ) (h : LA.fromAngles (es.map Encl.pair) = .ok g) :
    (∀ θ : ℝ, ‖evMat g θ - Ucirc θ ψs‖
        ≤ (((prodErr (es.map Encl.rotBound) (1, 0)).2 : ℚ) : ℝ)) ∧
      0 ≤ (prodErr (es.map Encl.rotBound) (1, 0)).2 ∧ g.NZ := by
  cases hF with
  | nil =>
    simp only [List.map_nil, fromAngles_nil] at h
    cases h
  | @cons e ψ es ψs hh hF =>
    rw [List.map_cons] at h
    obtain ⟨hP0e, hP0'⟩ := rot_encl e ψ hh
    have key : ∀ θ : ℝ, _ := fun θ => encl_fold_err θ es ψs hF
      (rotC ((Real.cos ψ : ℝ) : ℂ) ((Real.sin ψ : ℝ) : ℂ)) (rotC ((e.c : ℝ) : ℂ) ((e.s : ℝ) : ℂ))
      (1 + 2 * e.δ) (2 * e.δ) hP0' hP0e
    have e3 : prodErr ((e :: es).map Encl.rotBound) (1, 0)
        = prodErr (es.map Encl.rotBound) (1 + 2 * e.δ, 2 * e.δ) := by
      simp only [List.map_cons, Encl.rotBound, prodErr_cons, one_mul, zero_mul, zero_add]
    rw [e3]
    refine ⟨fun θ => ?_, (key 0).2, fromAngles_NZ _ _ g h⟩
    rw [fromAngles_eval _ _ _ h θ, norm_sub_rev]
    exact (key θ).1

theorem enclList_ok (bits : ℕ) (φs : List ℚ) :
    List.Forall₂ EnclOK (enclList bits φs) (φs.map (fun q : ℚ => (q : ℝ))) := by
  induction φs with
  | nil => exact .nil
  | cons q qs ih => exact .cons (trigEncl_sound q bits) ih

theorem fromAnglesBall_sound (bits : ℕ) (φs : List ℚ) (g : LA ℚ) (E : ℚ)
    (h : fromAnglesBall (enclList bits φs) = .ok (g, E)) :
    (∀ θ : ℝ, ‖evMat g θ - Ucirc θ (φs.map (fun q : ℚ => (q : ℝ)))‖ ≤ (E : ℝ)) ∧
      g.WF ∧ 0 ≤ E ∧ φs ≠ [] := by
  obtain ⟨g', hg, h⟩ := bind_ok h
  cases h
  obtain ⟨h1, h2, h3⟩ := fromAngles_encl_sound _ _ (enclList_ok bits φs) g hg
  refine ⟨h1, h3.wf, h2, ?_⟩
  rintro rfl
  cases hg

theorem fromAnglesBall_NZ {bits : ℕ} {φs : List ℚ} {g : LA ℚ} {E : ℚ}
    (h : fromAnglesBall (enclList bits φs) = .ok (g, E)) : g.NZ := by
  obtain ⟨g', hg, h⟩ := bind_ok h
  cases h
  exact (fromAngles_encl_sound _ _ (enclList_ok bits φs) g hg).2.2

theorem fromAnglesBall_total (bits : ℕ) (φs : List ℚ) (hφ : φs ≠ []) :
    ∃ g E, fromAnglesBall (enclList bits φs) = .ok (g, E) := by
  cases φs with
  | nil => exact absurd rfl hφ
  | cons q qs =>
    obtain ⟨g0, hg0, -⟩ := fromAngles_returns (trigEncl q bits).pair ((enclList bits qs).map Encl.pair)
    exact ⟨g0, _, by
      simp only [fromAnglesBall, enclList, List.map_cons] at hg0 ⊢
      rw [hg0]
      rfl⟩

/-! ## corollaries: entries and the `|+>` corner -/

theorem norm_evQ_I_sub_le {g : LA ℚ} {U : M22} {E θ : ℝ} (h : ‖evMat g θ - U‖ ≤ E) :
    ‖evQ g.I θ - U 0 0‖ ≤ E := by
  have := norm_entry_le (evMat g θ - U) 0 0
  rw [Matrix.sub_apply, evMat_00] at this
  exact this.trans h

theorem norm_evQ_X_sub_le {g : LA ℚ} {U : M22} {E θ : ℝ} (h : ‖evMat g θ - U‖ ≤ E) :
    ‖I * evQ g.X θ - U 0 1‖ ≤ E := by
  have := norm_entry_le (evMat g θ - U) 0 1
  rw [Matrix.sub_apply, evMat_01] at this
  exact this.trans h

theorem corner_eq_brG (g : LA ℚ) (θ : ℝ) :
    (evQ g.I θ + evQ g.I (-θ)) / 2 + I * ((evQ g.X θ + evQ g.X (-θ)) / 2) = brG .x (evMat g θ) := by
  rw [brG_x, evMat_00, evMat_01, evMat_10, evMat_11]; ring

theorem norm_corner_sub_le {g : LA ℚ} {U : M22} {E θ : ℝ} (h : ‖evMat g θ - U‖ ≤ E) :
    ‖((evQ g.I θ + evQ g.I (-θ)) / 2 + I * ((evQ g.X θ + evQ g.X (-θ)) / 2)) - brG .x U‖ ≤ E := by
  rw [corner_eq_brG, ← brG_sub]
  exact (norm_bracket_le _ .x).trans h

section corollaries
variable (bits : ℕ) (φs : List ℚ) (g : LA ℚ) (E : ℚ)
  (h : fromAnglesBall (enclList bits φs) = .ok (g, E))
include h

theorem fromAnglesBall_I (θ : ℝ) :
    ‖evQ g.I θ - (Ucirc θ (φs.map (fun q : ℚ => (q : ℝ)))) 0 0‖ ≤ (E : ℝ) :=
  norm_evQ_I_sub_le ((fromAnglesBall_sound bits φs g E h).1 θ)

theorem fromAnglesBall_X (θ : ℝ) :
    ‖I * evQ g.X θ - (Ucirc θ (φs.map (fun q : ℚ => (q : ℝ)))) 0 1‖ ≤ (E : ℝ) :=
  norm_evQ_X_sub_le ((fromAnglesBall_sound bits φs g E h).1 θ)

theorem fromAnglesBall_corner (θ : ℝ) :
    ‖((evQ g.I θ + evQ g.I (-θ)) / 2 + I * ((evQ g.X θ + evQ g.X (-θ)) / 2))
        - brG .x (Ucirc θ (φs.map (fun q : ℚ => (q : ℝ))))‖ ≤ (E : ℝ) :=
  norm_corner_sub_le ((fromAnglesBall_sound bits φs g E h).1 θ)

end corollaries

/-! ## links to the response definition -/

theorem Ucirc_00_eq_Wz_z (θ : ℝ) (hθ : 0 ≤ Real.sin θ) (φs : List ℝ) :
    (Ucirc θ φs) 0 0 = respDef .Wz .z φs (Real.cos θ) := by
  rw [respDef_Wz_z, Ucirc_eq_Udef θ hθ]

theorem Ucirc_00_eq_Wx_x (θ : ℝ) (hθ : 0 ≤ Real.sin θ) (φs : List ℝ) :
    (Ucirc θ φs) 0 0 = respDef .Wx .x φs (Real.cos θ) := by
  rw [resp_Wx_x_eq_Wz_z, Ucirc_00_eq_Wz_z θ hθ]

theorem Ucirc_corner_eq_Wx_z (θ : ℝ) (hθ : 0 ≤ Real.sin θ) (φs : List ℝ) :
    brG .x (Ucirc θ φs) = respDef .Wx .z φs (Real.cos θ) := by
  rw [← resp_Wz_x_eq_Wx_z, respDef_eq_brG, Ucirc_eq_Udef θ hθ]

theorem Ucirc_corner_eq_Wz_x (θ : ℝ) (hθ : 0 ≤ Real.sin θ) (φs : List ℝ) :
    brG .x (Ucirc θ φs) = respDef .Wz .x φs (Real.cos θ) := by
  rw [respDef_eq_brG, Ucirc_eq_Udef θ hθ]

theorem exists_theta_of_mem_Icc (a : ℝ) (ha : a ∈ Set.Icc (-1 : ℝ) 1) :
    ∃ θ : ℝ, 0 ≤ Real.sin θ ∧ Real.cos θ = a :=
  ⟨Real.arccos a,
    Real.sin_nonneg_of_nonneg_of_le_pi (Real.arccos_nonneg a) (Real.arccos_le_pi a),
    Real.cos_arccos ha.1 ha.2⟩

/-- `m θ` a model value on the circle, `R` the response it approximates on the upper half, `T` the
    target the validator compares it with -/
theorem forall_Icc_of_circle {R T : ℝ → ℂ} {m : ℝ → ℂ} {E B : ℝ}
    (hR : ∀ θ : ℝ, 0 ≤ Real.sin θ → ‖m θ - R (Real.cos θ)‖ ≤ E)
    (hT : ∀ θ : ℝ, ‖m θ - T (Real.cos θ)‖ + E ≤ B) :
    ∀ a : ℝ, a ∈ Set.Icc (-1 : ℝ) 1 → ‖R a - T a‖ ≤ B := by
  intro a ha
  obtain ⟨θ, hθ, rfl⟩ := exists_theta_of_mem_Icc a ha
  have h1 := hR θ hθ
  rw [norm_sub_rev] at h1
  exact (norm_sub_le_norm_sub_add_norm_sub _ (m θ) _).trans (by linarith [hT θ])

/-! ### the ball bound directly against the response of the definition -/

section resp
variable (bits : ℕ) (φs : List ℚ) (g : LA ℚ) (E : ℚ)
  (h : fromAnglesBall (enclList bits φs) = .ok (g, E))
include h

theorem fromAnglesBall_resp_Wz_z (θ : ℝ) (hθ : 0 ≤ Real.sin θ) :
    ‖evQ g.I θ - respDef .Wz .z (φs.map (fun q : ℚ => (q : ℝ))) (Real.cos θ)‖ ≤ (E : ℝ) := by
  rw [← Ucirc_00_eq_Wz_z θ hθ]; exact fromAnglesBall_I bits φs g E h θ

theorem fromAnglesBall_resp_Wx_x (θ : ℝ) (hθ : 0 ≤ Real.sin θ) :
    ‖evQ g.I θ - respDef .Wx .x (φs.map (fun q : ℚ => (q : ℝ))) (Real.cos θ)‖ ≤ (E : ℝ) := by
  rw [← Ucirc_00_eq_Wx_x θ hθ]; exact fromAnglesBall_I bits φs g E h θ

theorem fromAnglesBall_resp_Wx_z (θ : ℝ) (hθ : 0 ≤ Real.sin θ) :
    ‖((evQ g.I θ + evQ g.I (-θ)) / 2 + I * ((evQ g.X θ + evQ g.X (-θ)) / 2))
        - respDef .Wx .z (φs.map (fun q : ℚ => (q : ℝ))) (Real.cos θ)‖ ≤ (E : ℝ) := by
  rw [← Ucirc_corner_eq_Wx_z θ hθ]; exact fromAnglesBall_corner bits φs g E h θ

end resp

/-! ## the gauge validator C06 -/

theorem gauge_sin {e : Encl} {ψ : ℝ} (he : EnclOK e ψ) {tolG : ℚ} (h : qabs e.s + e.δ ≤ tolG) :
    |Real.sin ψ| ≤ (tolG : ℝ) := by
  have h' : |(e.s : ℝ)| + (e.δ : ℝ) ≤ (tolG : ℝ) := by rw [qabs_eq] at h; exact_mod_cast h
  have := abs_sub_abs_le_abs_sub (Real.sin ψ) (e.s : ℝ)
  linarith [he.2]

/-- the sign of the cosine that `validC06` reads off an enclosure, `0` when it cannot tell -/
def sgnE (e : Encl) : ℤ := if e.c - e.δ > 0 then 1 else if e.c + e.δ < 0 then -1 else 0

theorem sgnE_spec {e : Encl} {ψ : ℝ} (he : EnclOK e ψ) (h : sgnE e ≠ 0) :
    SignType.sign (Real.cos ψ) = SignType.sign (sgnE e) ∧ Real.cos ψ ≠ 0 := by
  obtain ⟨lo, hi⟩ := abs_le.mp he.1
  unfold sgnE at h ⊢
  split_ifs at h ⊢ with h1 h2
  · have : (0 : ℝ) < (e.c : ℝ) - (e.δ : ℝ) := by exact_mod_cast h1
    have : 0 < Real.cos ψ := by linarith
    exact ⟨by rw [sign_pos this, sign_one], this.ne'⟩
  · have : (e.c : ℝ) + (e.δ : ℝ) < 0 := by exact_mod_cast h2
    have : Real.cos ψ < 0 := by linarith
    exact ⟨by rw [sign_neg this, sign_neg (by norm_num : (-1 : ℤ) < 0)], this.ne⟩
  · exact absurd rfl h

theorem sgnE_prod (bits : ℕ) (l : List ℚ)
    (hs : (l.map (fun d : ℚ => sgnE (trigEncl d bits))).prod ≠ 0) :
    (∀ d ∈ l, Real.cos ((d : ℚ) : ℝ) ≠ 0) ∧
      (l.map (fun d : ℚ => SignType.sign (Real.cos ((d : ℚ) : ℝ)))).prod
        = SignType.sign (l.map (fun d : ℚ => sgnE (trigEncl d bits))).prod := by
  induction l with
  | nil => exact ⟨by simp, sign_one.symm⟩
  | cons d l ih =>
    rw [List.map_cons, List.prod_cons] at hs
    obtain ⟨h1, h2⟩ := mul_ne_zero_iff.mp hs
    obtain ⟨i1, i2⟩ := ih h2
    obtain ⟨e1, e2⟩ := sgnE_spec (trigEncl_sound d bits) h1
    refine ⟨List.forall_mem_cons.mpr ⟨e2, i1⟩, ?_⟩
    rw [List.map_cons, List.prod_cons, List.map_cons, List.prod_cons, sign_mul, e1, i2]

theorem evMat_sub_eq (g g' : LA ℚ) (hg : g.WF) (hg' : g'.WF) (dI dX : LP ℚ)
    (hI : g'.I.sub g.I = .ok dI) (hX : g'.X.sub g.X = .ok dX) (θ : ℝ) :
    evMat g' θ - evMat g θ
      = (!![evQ dI θ, 0; 0, evQ dI (-θ)] : M22)
          + iX * (!![evQ dX (-θ), 0; 0, evQ dX θ] : M22) := by
  have eI : ∀ t : ℝ, evQ dI t = evQ g'.I t - evQ g.I t := fun t => evQ_sub hg'.1 hg.1 hI t
  have eX : ∀ t : ℝ, evQ dX t = evQ g'.X t - evQ g.X t := fun t => evQ_sub hg'.2 hg.2 hX t
  simp only [evMat, iX, mul_fin_two, sub_fin_two, add_fin_two, eI, eX]
  refine mat2_congr ?_ ?_ ?_ ?_ <;> ring

theorem norm_evMat_sub_le (g g' : LA ℚ) (hg : g.WF) (hg' : g'.WF) (dI dX : LP ℚ)
    (hI : g'.I.sub g.I = .ok dI) (hX : g'.X.sub g.X = .ok dX) (θ : ℝ) :
    ‖evMat g' θ - evMat g θ‖ ≤ ((l1 dI.coefs : ℚ) : ℝ) + ((l1 dX.coefs : ℚ) : ℝ) := by
  rw [evMat_sub_eq g g' hg hg' dI dX hI hX θ]
  refine (norm_add_le _ _).trans (add_le_add ?_ ?_)
  · exact (norm_diag2_le _ _).trans (max_le (norm_evQ_le dI θ) (norm_evQ_le dI (-θ)))
  · calc ‖iX * (!![evQ dX (-θ), 0; 0, evQ dX θ] : M22)‖
        ≤ ‖iX‖ * ‖(!![evQ dX (-θ), 0; 0, evQ dX θ] : M22)‖ := norm_mul_le _ _
      _ = ‖(!![evQ dX (-θ), 0; 0, evQ dX θ] : M22)‖ := by rw [norm_iX, one_mul]
      _ ≤ _ := (norm_diag2_le _ _).trans (max_le (norm_evQ_le dX (-θ)) (norm_evQ_le dX θ))

theorem validC06_accepts (phis phis' : List ℚ) (tolE tolG : ℚ) (bits : ℕ) (v : VOut)
    (h : validC06 phis phis' tolE tolG bits = .ok v) (hv : v.ok = true) :
    phis'.length = phis.length ∧
    ∃ (g g' : LA ℚ) (E E' : ℚ) (dI dX : LP ℚ),
      fromAnglesBall (enclList bits phis) = .ok (g, E) ∧
      fromAnglesBall (enclList bits phis') = .ok (g', E') ∧
      g'.I.sub g.I = .ok dI ∧ g'.X.sub g.X = .ok dX ∧
      l1 dI.coefs + l1 dX.coefs + E + E' ≤ tolE ∧
      (∀ d ∈ List.zipWith (fun a a' : ℚ => a' - a) phis phis',
        qabs (trigEncl d bits).s + (trigEncl d bits).δ ≤ tolG) ∧
      ((List.zipWith (fun a a' : ℚ => a' - a) phis phis').map
        (fun d => sgnE (trigEncl d bits))).prod = 1 := by
  unfold validC06 at h
  split at h
  · cases h; cases hv
  · rename_i hc
    obtain ⟨⟨g, E⟩, h1, h⟩ := bind_ok h
    obtain ⟨⟨g', E'⟩, h2, h⟩ := bind_ok h
    obtain ⟨dI, h3, h⟩ := bind_ok h
    obtain ⟨dX, h4, h⟩ := bind_ok h
    cases h
    have hds : List.zipWith (fun a a' : ℚ => trigEncl (a' - a) bits) phis phis'
        = (List.zipWith (fun a a' : ℚ => a' - a) phis phis').map (fun d => trigEncl d bits) := by
      rw [List.map_zipWith]
    simp only [Bool.and_eq_true, decide_eq_true_eq, List.all_eq_true, hds, List.forall_mem_map,
      List.map_map, ← List.prod_eq_foldl] at hv
    exact ⟨by by_contra hne; exact hc (by simp [hne]), g, g', E, E', dI, dX, h1, h2, h3, h4,
      hv.1.1, hv.1.2, hv.2⟩

theorem validC06_sound (phis phis' : List ℚ) (tolE tolG : ℚ) (bits : ℕ) (v : VOut)
    (h : validC06 phis phis' tolE tolG bits = .ok v) (hv : v.ok = true) :
    phis'.length = phis.length ∧
    (∀ θ : ℝ, ‖Ucirc θ (phis'.map (fun q : ℚ => (q : ℝ)))
        - Ucirc θ (phis.map (fun q : ℚ => (q : ℝ)))‖ ≤ (tolE : ℝ)) ∧
    (∀ k < phis.length,
      |Real.sin (((phis'.getD k 0 : ℚ) : ℝ) - ((phis.getD k 0 : ℚ) : ℝ))| ≤ (tolG : ℝ) ∧
      Real.cos (((phis'.getD k 0 : ℚ) : ℝ) - ((phis.getD k 0 : ℚ) : ℝ)) ≠ 0) ∧
    (List.zipWith (fun a a' : ℚ => SignType.sign (Real.cos (((a' : ℚ) : ℝ) - ((a : ℚ) : ℝ))))
      phis phis').prod = 1 := by
  obtain ⟨hlen, g, g', E, E', dI, dX, h1, h2, h3, h4, hb, hsin, hp⟩ :=
    validC06_accepts phis phis' tolE tolG bits v h hv
  obtain ⟨hS, hWF, -, -⟩ := fromAnglesBall_sound bits phis g E h1
  obtain ⟨hS', hWF', -, -⟩ := fromAnglesBall_sound bits phis' g' E' h2
  obtain ⟨hcos, hsign⟩ := sgnE_prod bits _ (ne_of_eq_of_ne hp one_ne_zero)
  refine ⟨hlen, fun θ => ?_, fun k hk => ?_, ?_⟩
  · have hbR : ((l1 dI.coefs : ℚ) : ℝ) + ((l1 dX.coefs : ℚ) : ℝ) + (E : ℝ) + (E' : ℝ)
        ≤ (tolE : ℝ) := by exact_mod_cast hb
    exact (norm_sub_le_of_approx (hS θ) (hS' θ)
      (norm_evMat_sub_le g g' hWF hWF' dI dX h3 h4 θ)).trans hbR
  · have hk' : k < phis'.length := hlen ▸ hk
    have hmem := List.getElem_mem
      (show k < (List.zipWith (fun a a' : ℚ => a' - a) phis phis').length by
        rw [List.length_zipWith]; exact lt_min hk hk')
    rw [List.getElem_zipWith] at hmem
    rw [List.getD_eq_getElem _ _ hk, List.getD_eq_getElem _ _ hk', ← Rat.cast_sub]
    exact ⟨gauge_sin (trigEncl_sound _ bits) (hsin _ hmem), hcos _ hmem⟩
  · rw [hp, sign_one] at hsign
    rw [← hsign]
    simp only [List.map_zipWith, Rat.cast_sub]

/-! ### the sign product as a parity statement -/

theorem sign_prod_eq_neg_one_pow (l : List ℝ) (h0 : ∀ x ∈ l, x ≠ 0) :
    (l.map (fun x : ℝ => SignType.sign x)).prod
      = (-1 : SignType) ^ (l.countP (fun x : ℝ => decide (x < 0))) := by
  induction l with
  | nil => simp
  | cons x l ih =>
    have ih' := ih (fun y hy => h0 y (List.mem_cons_of_mem _ hy))
    rw [List.map_cons, List.prod_cons, ih']
    rcases lt_or_gt_of_ne (h0 x List.mem_cons_self) with hx | hx
    · rw [sign_neg hx, List.countP_cons_of_pos (by simpa using hx), pow_succ']
    · rw [sign_pos hx, List.countP_cons_of_neg (by simpa using hx.le), one_mul]

theorem even_countP_neg_of_sign_prod (l : List ℝ)
    (h : (l.map (fun x : ℝ => SignType.sign x)).prod = 1) :
    Even (l.countP (fun x : ℝ => decide (x < 0))) := by
  have h0 : ∀ x ∈ l, x ≠ 0 := by
    intro x hx hx0
    have hmem : (0 : SignType) ∈ l.map (fun x : ℝ => SignType.sign x) :=
      List.mem_map.mpr ⟨x, hx, by rw [hx0, sign_zero]⟩
    rw [List.prod_eq_zero hmem] at h
    exact absurd h (by decide)
  rw [sign_prod_eq_neg_one_pow l h0] at h
  exact (neg_one_pow_eq_one_iff_even (by decide)).mp h

end QSP
