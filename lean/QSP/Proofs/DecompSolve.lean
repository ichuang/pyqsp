/-
  The split of a phase list into prefix and suffix that `decompose(g, ldeg)` is documented to return
  (`QSP/Model/DecompSplit.lean`), and solvability of its linear system for every element built from unit
  pairs: the conjugate of the prefix element solves it (`decompose_solvable`; property theorems in
  `QSP/Properties/C06e.lean`, uniqueness in `QSP/Proofs/DecompUnique.lean`).

  Pairs `(c, s)` with the product `rotMul` and the unit `(1, 0)` are the rotations `R(c, s)`; the
  conjugate of the prefix element is `R(P) · ~(R(c0) W ⋯ R(c_{ldeg-1}) W)`, `P` the ordered product of
  the first `ldeg` pairs (`conj_angP_splitPrefix`), so its value at `w = 1` is `Id`.
-/
import QSP.Proofs.LinSys
import QSP.Proofs.Glue
import QSP.Model.DecompSplit
open LaurentPolynomial
namespace QSP
namespace DS
variable {R : Type} [CommRing R]

/-! ## unit pairs under `rotMul` -/

theorem conjPair_conjPair (x : R × R) : conjPair (conjPair x) = x := by
  simp [conjPair]

theorem UnitPair.mul {x y : R × R} (hx : UnitPair x) (hy : UnitPair y) :
    UnitPair (rotMul x y) := by
  have := rotMul_normSq x y
  unfold UnitPair at *
  linear_combination this + (y.1 ^ 2 + y.2 ^ 2) * hx + hy

theorem UnitPair.conj {x : R × R} (h : UnitPair x) : UnitPair (conjPair x) := by
  rw [UnitPair, conjPair, neg_sq]; exact h

theorem UnitPair.mul_conj {x : R × R} (h : UnitPair x) : rotMul x (conjPair x) = (1, 0) := by
  simp only [UnitPair, rotMul, conjPair] at *
  refine Prod.ext ?_ ?_
  · simp only; linear_combination h
  · simp only; ring

theorem UnitPair.conj_mul {x : R × R} (h : UnitPair x) (y : R × R) :
    rotMul (conjPair x) (rotMul x y) = y := by
  simp only [UnitPair, rotMul, conjPair] at *
  refine Prod.ext ?_ ?_
  · simp only; linear_combination y.1 * h
  · simp only; linear_combination y.2 * h

theorem UnitPair.eq_of_mul_conj {q x : R × R} (hx : UnitPair x)
    (h : rotMul q (conjPair x) = (1, 0)) : q = x := by
  have h3 := hx.conj_mul (1, 0)
  rw [rotMul_one_right] at h3
  rw [← rotMul_one_right q, ← h3, ← rotMul_assoc, h, rotMul_one_left]

theorem rotProd_append (a b : List (R × R)) : rotProd (a ++ b) = rotMul (rotProd a) (rotProd b) := by
  induction a with
  | nil => simp [rotProd, rotMul_one_left]
  | cons c a ih => simp only [List.cons_append, rotProd, ih, rotMul_assoc]

theorem unit_rotProd {cs : List (R × R)} (h : ∀ c ∈ cs, UnitPair c) : UnitPair (rotProd cs) := by
  induction cs with
  | nil => simp [rotProd, UnitPair]
  | cons c cs ih =>
    obtain ⟨hc, hcs⟩ := List.forall_mem_cons.mp h
    exact hc.mul (ih hcs)

theorem unit_rotProd_take {ps : List (R × R)} (h : ∀ c ∈ ps, UnitPair c) (e : ℕ) :
    UnitPair (rotProd (ps.take e)) :=
  unit_rotProd fun c hc => h c (List.mem_of_mem_take hc)

/-! ## rotations and products of phases in the pair algebra (`QSP/Proofs/P2.lean`) -/

theorem rot_mul_rot (x y : R × R) : rot x * rot y = rot (rotMul x y) := by
  refine P2.ext ?_ ?_
  · simp only [mul_A, rot, rotMul, invert_C, RingHom.map_sub, RingHom.map_mul]
  · simp only [mul_B, rot, rotMul, invert_C, RingHom.map_add, RingHom.map_mul]; ring

theorem conj_rot (c : R × R) : conj (rot c) = rot (conjPair c) := by
  refine P2.ext ?_ ?_ <;> simp only [conj, rot, conjPair, invert_C, RingHom.map_neg]

theorem nrm_rot_mul_W {c : R × R} (h : UnitPair c) : nrm (rot c * W) = 1 := by
  rw [nrm_mul, nrm_rot_unit h, nrm_W, one_mul]

theorem tailP_eq (l : List (R × R)) (h : l ≠ []) : tailP l = W * angP l := by
  cases l with
  | nil => exact absurd rfl h
  | cons d l => rw [tailP_cons, angP, mul_assoc]

theorem angP_cons (c : R × R) {l : List (R × R)} (h : l ≠ []) :
    angP (c :: l) = rot c * W * angP l := by
  rw [angP, tailP_eq l h, mul_assoc]

theorem angP_append_cons (as : List (R × R)) (y : R × R) (ys : List (R × R)) :
    angP (as ++ y :: ys) = (as.map fun c => rot c * W).prod * angP (y :: ys) := by
  induction as with
  | nil => rw [List.nil_append, List.map_nil, List.prod_nil, one_mul]
  | cons c as ih =>
    rw [List.cons_append, angP_cons c (List.append_ne_nil_of_right_ne_nil _ (List.cons_ne_nil y ys)),
      ih, List.map_cons, List.prod_cons]
    simp only [mul_assoc]

theorem angP_mergePairs (a b : List (R × R)) : angP (mergePairs a b) = angP a * angP b := by
  induction a, b using concat_cons_cases with
  | nil_left b => rw [mergePairs_nil_left, angP, one_mul]
  | nil_right a => rw [mergePairs_nil_right, angP, mul_one]
  | concat_cons as x y ys =>
    rw [mergePairs_concat_cons, angP_append_cons, angP_append_cons, angP, angP, angP, tailP_nil,
      mul_one, mul_assoc, ← mul_assoc (rot x), rot_mul_rot]

/-! ## the value at `w = 1` -/

theorem ev1_mul (g h : P2 R) : ev1 (g * h) = rotMul (ev1 g) (ev1 h) := by
  simp only [ev1, rotMul, mul_A, mul_B, RingHom.map_sub, RingHom.map_add, RingHom.map_mul, e1_invert]
  rw [add_comm]

theorem ev1_rot (c : R × R) : ev1 (rot c) = c := by simp [ev1, rot, e1_C]
theorem ev1_W : ev1 (W : P2 R) = (1, 0) := by simp [ev1, W, e1_T]
theorem ev1_one : ev1 (1 : P2 R) = (1, 0) := by simp [ev1]

theorem ev1_conj (g : P2 R) : ev1 (conj g) = conjPair (ev1 g) := by
  simp only [ev1, conj, conjPair, e1_invert, RingHom.map_neg]

/-- `R(c0) W R(c1) W ⋯ R(c_{e-1}) W` -/
noncomputable def headP (e : ℕ) (cs : List (R × R)) : P2 R :=
  ((cs.take e).map fun c => rot c * W).prod

theorem headP_zero (cs : List (R × R)) : headP 0 cs = 1 := by simp [headP]
theorem headP_succ (e : ℕ) (c : R × R) (cs : List (R × R)) :
    headP (e + 1) (c :: cs) = rot c * W * headP e cs := by simp [headP]

theorem ev1_headP (e : ℕ) : ∀ cs : List (R × R), ev1 (headP e cs) = rotProd (cs.take e) := by
  induction e with
  | zero => intro cs; simp [headP_zero, ev1_one, rotProd]
  | succ e ih =>
    intro cs
    cases cs with
    | nil => simp [headP, ev1_one, rotProd]
    | cons c cs =>
      rw [headP_succ, ev1_mul, ev1_mul, ev1_rot, ev1_W, rotMul_one_right, ih, List.take_succ_cons]
      rfl

/-! ## the documented split -/

section split
variable {ps : List (R × R)} {n ldeg : ℕ}

theorem split_lists (hlen : ps.length = n + 1) (h2 : ldeg ≤ n) :
    ∃ as y ys, ps = as ++ y :: ys ∧ as.length = ldeg ∧ ys.length = n - ldeg ∧
      splitPrefix ps ldeg = as ++ [conjPair (rotProd as)] ∧
      splitSuffix ps ldeg = rotMul (rotProd as) y :: ys := by
  have hlt : ldeg < ps.length := by rw [hlen]; exact Nat.lt_succ_of_le h2
  have hd := List.drop_eq_getElem_cons hlt
  refine ⟨ps.take ldeg, ps[ldeg], ps.drop (ldeg + 1), ?_, List.length_take_of_le hlt.le, ?_, rfl, ?_⟩
  · rw [← hd, List.take_append_drop]
  · rw [List.length_drop, hlen, Nat.add_sub_add_right]
  · rw [splitSuffix, hd]

theorem length_splitPrefix (hlen : ps.length = n + 1) (h2 : ldeg ≤ n) :
    (splitPrefix ps ldeg).length = ldeg + 1 := by
  obtain ⟨as, y, ys, -, has, -, hpre, -⟩ := split_lists hlen h2
  rw [hpre, List.length_append, has, List.length_singleton]

theorem length_splitSuffix (hlen : ps.length = n + 1) (h2 : ldeg ≤ n) :
    (splitSuffix ps ldeg).length = n - ldeg + 1 := by
  obtain ⟨as, y, ys, -, -, hys, -, hsuf⟩ := split_lists hlen h2
  rw [hsuf, List.length_cons, hys]

theorem unit_splitPrefix (ldeg : ℕ) (hunit : ∀ c ∈ ps, UnitPair c) :
    ∀ c ∈ splitPrefix ps ldeg, UnitPair c :=
  List.forall_mem_append.mpr ⟨fun c hc => hunit c (List.mem_of_mem_take hc),
    List.forall_mem_singleton.mpr (unit_rotProd_take hunit ldeg).conj⟩

theorem unit_splitSuffix (ldeg : ℕ) (hunit : ∀ c ∈ ps, UnitPair c) :
    ∀ c ∈ splitSuffix ps ldeg, UnitPair c := by
  unfold splitSuffix
  split
  · exact fun _ hc => absurd hc List.not_mem_nil
  · next y ys hd =>
    obtain ⟨hy, hys⟩ := List.forall_mem_cons.mp fun c hc => hunit c (List.mem_of_mem_drop (hd ▸ hc))
    exact List.forall_mem_cons.mpr ⟨(unit_rotProd_take hunit ldeg).mul hy, hys⟩

theorem merge_split (hlen : ps.length = n + 1) (h2 : ldeg ≤ n) (hunit : ∀ c ∈ ps, UnitPair c) :
    mergePairs (splitPrefix ps ldeg) (splitSuffix ps ldeg) = ps := by
  obtain ⟨as, y, ys, rfl, -, -, hpre, hsuf⟩ := split_lists hlen h2
  rw [hpre, hsuf, mergePairs_concat_cons,
    (unit_rotProd (List.forall_mem_append.mp hunit).1).conj_mul]

theorem angP_split (hlen : ps.length = n + 1) (h2 : ldeg ≤ n) (hunit : ∀ c ∈ ps, UnitPair c) :
    angP ps = angP (splitPrefix ps ldeg) * angP (splitSuffix ps ldeg) := by
  rw [← angP_mergePairs, merge_split hlen h2 hunit]

theorem conj_angP_splitPrefix (ps : List (R × R)) (ldeg : ℕ) :
    conj (angP (splitPrefix ps ldeg)) = rot (rotProd (ps.take ldeg)) * conj (headP ldeg ps) := by
  rw [splitPrefix, angP_append_cons, angP, tailP_nil, mul_one, conj_mul, conj_rot, conjPair_conjPair,
    headP]

theorem ev1_conj_angP_splitPrefix (ldeg : ℕ) (hunit : ∀ c ∈ ps, UnitPair c) :
    ev1 (conj (angP (splitPrefix ps ldeg))) = (1, 0) := by
  rw [conj_angP_splitPrefix, ev1_mul, ev1_rot, ev1_conj, ev1_headP,
    (unit_rotProd_take hunit ldeg).mul_conj]

end split

/-! ## interior pairs

  `ps.tail.dropLast`, all pairs but the first and the last, are the ones whose cosine uniqueness
  (`QSP/Proofs/DecompUnique.lean`) needs regular (`x * c.1 = 0 → x = 0`; over a field: `cos φ ≠ 0`).
  The interior pairs of the two parts of a split are interior pairs of the list: the junction pairs
  are ends. -/

theorem mem_interior_cons {α : Type} {c p0 : α} {ps : List α} (h : c ∈ ps.tail.dropLast) :
    c ∈ (p0 :: ps).tail.dropLast := by
  rw [List.tail_cons, ← List.tail_dropLast] at *
  exact List.mem_of_mem_tail h

theorem interior_split {ps : List (R × R)} {n ldeg : ℕ} (hlen : ps.length = n + 1)
    (h1 : 1 ≤ ldeg) (h2 : ldeg ≤ n) :
    (∀ c ∈ (splitPrefix ps ldeg).tail.dropLast, c ∈ ps.tail.dropLast) ∧
    (∀ c ∈ (splitSuffix ps ldeg).tail.dropLast, c ∈ ps.tail.dropLast) := by
  obtain ⟨as, y, ys, rfl, has, -, hpre, hsuf⟩ := split_lists hlen h2
  cases as with
  | nil => subst has; exact absurd h1 (Nat.not_succ_le_zero 0)
  | cons a0 as' =>
    have e : ((a0 :: as') ++ y :: ys).tail.dropLast = as' ++ (y :: ys).dropLast := by
      simp only [List.cons_append, List.tail_cons]
      exact List.dropLast_append_of_ne_nil (by simp)
    rw [e, hpre, hsuf]
    constructor
    · intro c hc
      simp only [List.cons_append, List.tail_cons, List.dropLast_concat] at hc
      exact List.mem_append_left _ hc
    · intro c hc
      exact List.mem_append_right _ (List.mem_of_mem_tail (by rw [List.tail_dropLast]; exact hc))

/-! ## solvability of the linear system of `decompose` -/

/-- `l = ~pre` solves the linear system of `g`, `l * g` is the pair of halves of `M · vec(l)` and denotes
    `suf`, and `~l` is `pre` again -/
theorem decompose_solvable (ps : List (R × R)) (n ldeg : ℕ) (hlen : ps.length = n + 1)
    (hunit : ∀ c ∈ ps, c.1 ^ 2 + c.2 ^ 2 = 1) (h1 : 1 ≤ ldeg) (h2 : ldeg ≤ n) :
    ∃ g pre suf l r : LA R,
      LA.fromAngles ps = .ok g ∧ LA.fromAngles (splitPrefix ps ldeg) = .ok pre ∧
      LA.fromAngles (splitSuffix ps ldeg) = .ok suf ∧ pre.conj = .ok l ∧ l.conj = .ok pre ∧
      Rng n g ∧ Rng ldeg l ∧ Rng (n - ldeg) suf ∧
      mulVec (linSys g.I.coefs g.X.coefs ldeg).1 (vecOf l.I.coefs l.X.coefs)
        = (linSys g.I.coefs g.X.coefs ldeg).2 ∧
      l.mul g = .ok r ∧ pden r = pden suf ∧
      r.I = ⟨prodI g.I.coefs g.X.coefs l.I.coefs l.X.coefs, -((n : ℤ) + ldeg), false⟩ ∧
      r.X = ⟨prodX g.I.coefs g.X.coefs l.I.coefs l.X.coefs, -((n : ℤ) + ldeg), false⟩ := by
  obtain ⟨g, hg, dg, rg⟩ := fromAngles_spec ps n hlen
  obtain ⟨pre, hpre, dpre, rpre⟩ := fromAngles_spec _ ldeg (length_splitPrefix hlen h2)
  obtain ⟨suf, hsf, dsuf, rsuf⟩ := fromAngles_spec _ (n - ldeg) (length_splitSuffix hlen h2)
  obtain ⟨l, hl, hl'⟩ := LRange.conj_conj pre rpre.wf.1 rpre.wf.2 (consistent_of_NZ rpre.1)
  have rl := conj_rng rpre hl
  obtain ⟨-, -, gIl, gXl⟩ := rg.shape
  obtain ⟨-, -, lIl, lXl⟩ := rl.shape
  obtain ⟨-, -, sIl, sXl⟩ := rsuf.shape
  have hmul := LinSys.LA_mul_eq gIl gXl lIl lXl
  rw [← rg.eq_mk, ← rl.eq_mk] at hmul
  -- `l · g = ~pre · pre · suf = suf`
  have dlg : pden l * pden g = pden suf := by
    rw [pden_conj rpre.wf hl, dpre, dg, angP_split hlen h2 hunit, ← mul_assoc,
      conj_mul_self_of_nrm (nrm_angP _ (unit_splitPrefix ldeg hunit)), one_mul, dsuf]
  refine ⟨g, pre, suf, l, _, hg, hpre, hsf, hl, hl', rg, rl, rsuf, ?_, hmul,
    (pden_mul rl.wf rg.wf hmul).trans dlg, rfl, rfl⟩
  rw [LinSys.linSys_iff_win gIl gXl lIl lXl h1, ← rl.pden_eq, ← rg.pden_eq, dlg,
    rsuf.pden_eq]
  refine ⟨?_, (Nat.cast_sub h2 : ((n - ldeg : ℕ) : ℤ) = n - ldeg) ▸ X_win _ _ _ sIl sXl⟩
  rw [pden_conj rpre.wf hl, dpre]; exact ev1_conj_angP_splitPrefix ldeg hunit

end DS
end QSP
