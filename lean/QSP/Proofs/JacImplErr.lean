/-
  The rational run of `JacImpl.jacImplPt` against the real one.  By `jacImplPt_map` with
  `f = Rat.castHom ℝ`, what the driver computes at rational inputs, cast to `ℝ`, is the real model
  at the cast inputs; so by the perturbation bound `jacImplPt_err` it is within the executable
  radius `jacImplErr n δ` (`QSP/Model/JacImplErr.lean`) of the real model at the exact cos/sin,
  whose entries are `Im <+|·|+>` of the product `Ucirc` and of its derivative matrices `jacD`
  (`QSP/Proofs/JacImpl.lean`).
-/
import QSP.Model.JacImplErr
import QSP.Proofs.JacImplPert
import QSP.Proofs.JacImplMap
import QSP.Proofs.JacImplSym
import Mathlib.Data.Rat.Cast.CharZero

namespace QSP
namespace JacImpl

theorem errR_cast (n : ℕ) (δ : ℚ) : ((jacImplErr n δ : ℚ) : ℝ) = errR n (δ : ℝ) := by
  unfold jacImplErr jacImplEps errR epsR
  push_cast
  ring

noncomputable def castP2 (p : ℚ × ℚ) : ℝ × ℝ := Prod.map (Rat.castHom ℝ) (Rat.castHom ℝ) p

theorem cast_jacImplPt (par : ℕ) (Pq : List (ℚ × ℚ)) (ctq stq : ℚ) (k : ℕ) :
    (((jacImplPt par Pq ctq stq).getD k 0 : ℚ) : ℝ)
      = (jacImplPt par (Pq.map castP2) (ctq : ℝ) (stq : ℝ)).getD k 0 := by
  have h := jacImplPt_map (Rat.castHom ℝ) par Pq ctq stq
  have h2 := List.getD_map (jacImplPt par Pq ctq stq) (0 : ℚ) (Rat.castHom ℝ) (n := k)
  rw [map_zero, h] at h2
  exact h2.symm

theorem jacImplPt_rat_err (par : ℕ) (red : List ℝ) (θ : ℝ) (Pq : List (ℚ × ℚ)) (ctq stq δ : ℚ)
    (hδ : 0 ≤ δ) (hc : |(ctq : ℝ) - Real.cos θ| ≤ (δ : ℝ)) (hs : |(stq : ℝ) - Real.sin θ| ≤ (δ : ℝ))
    (hlen : Pq.length = red.length)
    (hP : ∀ q ∈ (Pq.map castP2).zip (pairs2Of red),
      |q.1.1 - q.2.1| ≤ (δ : ℝ) ∧ |q.1.2 - q.2.2| ≤ (δ : ℝ))
    (k : ℕ) (hk : k ≤ red.length) :
    |(((jacImplPt par Pq ctq stq).getD k 0 : ℚ) : ℝ)
        - (jacImplPt par (pairs2Of red) (Real.cos θ) (Real.sin θ)).getD k 0|
      ≤ ((jacImplErr red.length δ : ℚ) : ℝ) := by
  rw [cast_jacImplPt, errR_cast, ← hlen, ← List.length_map (f := castP2)]
  refine jacImplPt_err par δ _ _ _ _ (by exact_mod_cast hδ) (Real.cos_sq_add_sin_sq θ) hc hs _ _
    (by rw [List.length_map, hlen, pairs2Of_length]) (fun q hq => ⟨?_, hP q hq⟩) k
    (by rwa [List.length_map, hlen])
  obtain ⟨x, _, hx⟩ := List.mem_map.mp (List.of_mem_zip hq).2
  rw [← hx]
  exact Real.cos_sq_add_sin_sq (2 * x)

end JacImpl
end QSP
