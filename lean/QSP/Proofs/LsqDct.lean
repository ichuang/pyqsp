/-
  Proofs for property C16b: discrete orthogonality of the Chebyshev polynomials at the
  first-kind Chebyshev nodes `x_j = cos (π (2j+1) / (2N))`, `j = 0..N-1`, and its consequence:
  the least-squares Chebyshev fit of degree `n < N` on those nodes (what
  `numpy.polynomial.chebyshev.chebfit(x, y, n)` computes) is given by the closed
  discrete-cosine-transform formula `dctCoef`.

  Everything is phrased through `T_k (cos t) = cos (k t)`, i.e. the value of `Σ_k c_k T_k` at the
  node `x_j = cos (θ N j)` is `Σ_k c_k cos (k θ N j)`.
-/
import Mathlib.Analysis.SpecialFunctions.Trigonometric.Basic
import Mathlib.Analysis.SpecialFunctions.Trigonometric.Chebyshev.Basic
import Mathlib.Algebra.BigOperators.Field
import Mathlib.Tactic.Positivity
open Finset

namespace QSP

/-- angle of the `j`-th first-kind Chebyshev node among `N`: `x_j = cos (θ N j)` -/
noncomputable def θ (N j : ℕ) : ℝ := Real.pi * (2 * (j : ℝ) + 1) / (2 * (N : ℝ))

/-- the closed (DCT-II) formula for the `k`-th Chebyshev coefficient of the samples `y` -/
noncomputable def dctCoef (N : ℕ) (y : ℕ → ℝ) (k : ℕ) : ℝ :=
  (if k = 0 then 1 else 2) / (N : ℝ) * ∑ j ∈ range N, y j * Real.cos ((k : ℝ) * θ N j)

/-- value at node `j` of `Σ_{k ≤ n} c_k T_k` (`fitVal_eq_chebyshev`) -/
noncomputable def fitVal (N : ℕ) (c : ℕ → ℝ) (n j : ℕ) : ℝ :=
  ∑ k ∈ range (n + 1), c k * Real.cos ((k : ℝ) * θ N j)

/-- what `chebfit` minimises: the sum over the nodes of the squared residuals of `Σ_{k ≤ n} c_k T_k`
    against the samples `y` -/
noncomputable def resid (N : ℕ) (y c : ℕ → ℝ) (n : ℕ) : ℝ :=
  ∑ j ∈ range N, (fitVal N c n j - y j) ^ 2

/-- the Gram weights: `Σ_j T_k(x_j)^2` -/
noncomputable def gramW (N k : ℕ) : ℝ := if k = 0 then (N : ℝ) else (N : ℝ) / 2

theorem gramW_pos (N k : ℕ) (hN : 0 < N) : 0 < gramW N k := by
  have : (0 : ℝ) < N := by exact_mod_cast hN
  unfold gramW; split_ifs <;> positivity

theorem fitVal_eq_chebyshev (N : ℕ) (c : ℕ → ℝ) (n j : ℕ) :
    fitVal N c n j = ∑ k ∈ range (n + 1),
      c k * (Polynomial.Chebyshev.T ℝ (k : ℤ)).eval (Real.cos (θ N j)) := by
  unfold fitVal
  refine sum_congr rfl fun k _ => ?_
  rw [Polynomial.Chebyshev.T_real_cos]; push_cast; rfl

/-! ### the cosine sum over the nodes -/

theorem two_sin_mul_cos (a b : ℝ) :
    2 * Real.sin a * Real.cos b = Real.sin (b + a) - Real.sin (b - a) := by
  rw [Real.sin_add, Real.sin_sub]; ring

theorem sum_cos_nodes (N m : ℕ) (hN : 0 < N) (hm : 0 < m) (hm2 : m < 2 * N) :
    ∑ j ∈ range N, Real.cos ((m : ℝ) * θ N j) = 0 := by
  have hNr : (0 : ℝ) < N := by exact_mod_cast hN
  have hmr : (0 : ℝ) < m := by exact_mod_cast hm
  have hm2r : (m : ℝ) < 2 * N := by exact_mod_cast hm2
  set a : ℝ := (m : ℝ) * Real.pi / (2 * N) with ha
  have ha0 : 0 < a := div_pos (mul_pos hmr Real.pi_pos) (by positivity)
  have hapi : a < Real.pi := by
    rw [ha, div_lt_iff₀ (by positivity), mul_comm]
    exact mul_lt_mul_of_pos_left hm2r Real.pi_pos
  have hs : Real.sin a ≠ 0 := (Real.sin_pos_of_pos_of_lt_pi ha0 hapi).ne'
  -- telescoping: `2 sin a cos (a (2j+1)) = sin (a (2j+2)) - sin (a 2j)`
  have htel : ∀ j : ℕ, 2 * Real.sin a * Real.cos ((m : ℝ) * θ N j)
      = Real.sin (a * (2 * ((j + 1 : ℕ) : ℝ))) - Real.sin (a * (2 * (j : ℝ))) := by
    intro j
    rw [two_sin_mul_cos]
    congr 2 <;> (rw [ha, θ]; push_cast; ring)
  have hsum : 2 * Real.sin a * ∑ j ∈ range N, Real.cos ((m : ℝ) * θ N j) = 0 := by
    rw [mul_sum, sum_congr rfl (fun j _ => htel j),
      sum_range_sub (fun j : ℕ => Real.sin (a * (2 * (j : ℝ)))),
      show a * (2 * (N : ℝ)) = (m : ℝ) * Real.pi by rw [ha]; field_simp, Real.sin_nat_mul_pi]
    simp
  exact (mul_eq_zero.mp hsum).resolve_left (mul_ne_zero two_ne_zero hs)

theorem sum_cos_nodes_sub (N k l : ℕ) (hk : k < N) (hl : l < N) (hkl : k ≠ l) :
    ∑ j ∈ range N, Real.cos (((k : ℝ) - (l : ℝ)) * θ N j) = 0 := by
  -- `cos` is even, so the larger index may be taken to be `k`
  wlog h : l < k generalizing k l
  · rw [← this l k hl hk hkl.symm (by omega)]
    refine sum_congr rfl fun j _ => ?_
    rw [← Real.cos_neg, ← neg_mul, neg_sub]
  · rw [← sum_cos_nodes N (k - l) (by omega) (by omega) (by omega), Nat.cast_sub h.le]

/-! ### the Gram matrix of `T_0 .. T_{N-1}` on the nodes -/

theorem gram (N k l : ℕ) (hN : 0 < N) (hk : k < N) (hl : l < N) :
    ∑ j ∈ range N, Real.cos ((k : ℝ) * θ N j) * Real.cos ((l : ℝ) * θ N j)
      = if k = l then gramW N k else 0 := by
  have hprod : ∀ j : ℕ, Real.cos ((k : ℝ) * θ N j) * Real.cos ((l : ℝ) * θ N j)
      = (Real.cos (((k : ℝ) - (l : ℝ)) * θ N j) + Real.cos (((k + l : ℕ) : ℝ) * θ N j)) / 2 := by
    intro j
    rw [Nat.cast_add, sub_mul, add_mul, Real.cos_sub, Real.cos_add]; ring
  rw [sum_congr rfl (fun j _ => hprod j), ← sum_div, sum_add_distrib]
  by_cases hkl : k = l
  · subst hkl
    rw [if_pos rfl, gramW]
    simp only [sub_self, zero_mul, Real.cos_zero, sum_const, card_range, nsmul_eq_mul, mul_one]
    by_cases hk0 : k = 0
    · subst hk0; simp
    · rw [sum_cos_nodes N (k + k) hN (Nat.add_pos_left (Nat.pos_of_ne_zero hk0) k)
        (by rw [two_mul]; exact Nat.add_lt_add hk hk), if_neg hk0, add_zero]
  · rw [sum_cos_nodes_sub N k l hk hl hkl, sum_cos_nodes N (k + l) hN (by omega) (by omega),
      if_neg hkl, add_zero, zero_div]

/-! ### analysis (node values → coefficients) of a Chebyshev series of degree `n < N` -/

theorem sum_fitVal_mul_cos (N n : ℕ) (hn : n < N) (c : ℕ → ℝ) (k : ℕ) (hk : k ≤ n) :
    ∑ j ∈ range N, fitVal N c n j * Real.cos ((k : ℝ) * θ N j) = gramW N k * c k := by
  have hN : 0 < N := by omega
  simp only [fitVal, sum_mul]
  rw [sum_comm]
  have : ∀ l ∈ range (n + 1),
      ∑ j ∈ range N, c l * Real.cos ((l : ℝ) * θ N j) * Real.cos ((k : ℝ) * θ N j)
        = if l = k then gramW N k * c k else 0 := by
    intro l hl
    have hl' : l < N := by have := mem_range.mp hl; omega
    simp only [mul_assoc, ← mul_sum]
    rw [gram N l k hN hl' (by omega)]
    split_ifs with h
    · subst h; ring
    · ring
  rw [sum_congr rfl this, sum_ite_eq' (range (n + 1)) k]
  simp [mem_range, Nat.lt_succ_of_le hk]

theorem gramW_mul_dctCoef (N : ℕ) (hN : 0 < N) (y : ℕ → ℝ) (k : ℕ) :
    gramW N k * dctCoef N y k = ∑ j ∈ range N, y j * Real.cos ((k : ℝ) * θ N j) := by
  have hNr : (N : ℝ) ≠ 0 := by exact_mod_cast hN.ne'
  rw [gramW, dctCoef, ← mul_assoc]
  by_cases hk : k = 0
  · rw [if_pos hk, if_pos hk, mul_one_div_cancel hNr, one_mul]
  · rw [if_neg hk, if_neg hk, div_mul_div_cancel₀' hNr, div_self two_ne_zero, one_mul]

theorem fitVal_sub (N : ℕ) (c d : ℕ → ℝ) (n j : ℕ) :
    fitVal N (fun k => c k - d k) n j = fitVal N c n j - fitVal N d n j := by
  simp only [fitVal, ← sum_sub_distrib]
  exact sum_congr rfl fun k _ => by ring

/-! ### normal equations -/

theorem normal_eqs (N n : ℕ) (hn : n < N) (y : ℕ → ℝ) :
    ∀ k ≤ n, ∑ j ∈ range N,
      (fitVal N (dctCoef N y) n j - y j) * Real.cos ((k : ℝ) * θ N j) = 0 := by
  intro k hk
  simp only [sub_mul, sum_sub_distrib]
  rw [sum_fitVal_mul_cos N n hn _ k hk, gramW_mul_dctCoef N (by omega)]
  exact sub_self _

theorem resid_orth (N n : ℕ) (hn : n < N) (y d : ℕ → ℝ) :
    ∑ j ∈ range N, fitVal N d n j * (fitVal N (dctCoef N y) n j - y j) = 0 := by
  have : ∀ j ∈ range N, fitVal N d n j * (fitVal N (dctCoef N y) n j - y j)
      = ∑ k ∈ range (n + 1),
          d k * ((fitVal N (dctCoef N y) n j - y j) * Real.cos ((k : ℝ) * θ N j)) := by
    intro j _
    rw [fitVal, sum_mul]
    exact sum_congr rfl fun k _ => by ring
  rw [sum_congr rfl this, sum_comm]
  refine sum_eq_zero fun k hk => ?_
  rw [← mul_sum, normal_eqs N n hn y k (by have := mem_range.mp hk; omega), mul_zero]

/-! ### Pythagoras and optimality -/

theorem resid_pythagoras (N n : ℕ) (hn : n < N) (y c : ℕ → ℝ) :
    resid N y c n = resid N y (dctCoef N y) n
      + ∑ j ∈ range N, (fitVal N c n j - fitVal N (dctCoef N y) n j) ^ 2 := by
  have h := resid_orth N n hn y (fun k => c k - dctCoef N y k)
  simp only [fitVal_sub] at h
  simp only [resid]
  rw [← sum_add_distrib]
  have e : ∀ j ∈ range N, (fitVal N c n j - y j) ^ 2
      = ((fitVal N (dctCoef N y) n j - y j) ^ 2
          + (fitVal N c n j - fitVal N (dctCoef N y) n j) ^ 2)
        + 2 * ((fitVal N c n j - fitVal N (dctCoef N y) n j)
            * (fitVal N (dctCoef N y) n j - y j)) := by
    intro j _; ring
  rw [sum_congr rfl e, sum_add_distrib, ← mul_sum, h]; ring

theorem resid_optimal (N n : ℕ) (hn : n < N) (y c : ℕ → ℝ) :
    resid N y (dctCoef N y) n ≤ resid N y c n := by
  rw [resid_pythagoras N n hn y c]
  have : 0 ≤ ∑ j ∈ range N, (fitVal N c n j - fitVal N (dctCoef N y) n j) ^ 2 :=
    sum_nonneg fun j _ => sq_nonneg _
  linarith

/-! ### Parseval on the nodes and uniqueness of the minimiser -/

theorem parseval (N n : ℕ) (hn : n < N) (d : ℕ → ℝ) :
    ∑ j ∈ range N, fitVal N d n j ^ 2 = ∑ k ∈ range (n + 1), gramW N k * d k ^ 2 := by
  have : ∀ j ∈ range N, fitVal N d n j ^ 2
      = ∑ k ∈ range (n + 1), d k * (fitVal N d n j * Real.cos ((k : ℝ) * θ N j)) := by
    intro j _
    rw [sq]
    nth_rewrite 1 [fitVal]
    rw [sum_mul]
    exact sum_congr rfl fun k _ => by ring
  rw [sum_congr rfl this, sum_comm]
  refine sum_congr rfl fun k hk => ?_
  rw [← mul_sum, sum_fitVal_mul_cos N n hn d k (by have := mem_range.mp hk; omega)]; ring

theorem resid_excess (N n : ℕ) (hn : n < N) (y c : ℕ → ℝ) :
    resid N y c n = resid N y (dctCoef N y) n
      + ∑ k ∈ range (n + 1), gramW N k * (c k - dctCoef N y k) ^ 2 := by
  rw [resid_pythagoras N n hn y c, ← parseval N n hn]
  simp only [fitVal_sub]

theorem resid_unique (N n : ℕ) (hn : n < N) (y c : ℕ → ℝ)
    (h : resid N y c n = resid N y (dctCoef N y) n) :
    ∀ k ≤ n, c k = dctCoef N y k := by
  intro k hk
  have hN : 0 < N := Nat.zero_lt_of_lt hn
  rw [resid_excess N n hn y c, add_eq_left] at h
  have hnn : ∀ k ∈ range (n + 1), 0 ≤ gramW N k * (c k - dctCoef N y k) ^ 2 :=
    fun k _ => mul_nonneg (gramW_pos N k hN).le (sq_nonneg _)
  have := (sum_eq_zero_iff_of_nonneg hnn).mp h k (mem_range.mpr (Nat.lt_succ_of_le hk))
  exact sub_eq_zero.mp
    ((pow_eq_zero_iff two_ne_zero).mp ((mul_eq_zero.mp this).resolve_left (gramW_pos N k hN).ne'))

/-! ### parity -/

theorem θ_reflect (N j : ℕ) (hj : j < N) : θ N (N - 1 - j) = Real.pi - θ N j := by
  have hNr : (2 * (N : ℝ)) ≠ 0 :=
    mul_ne_zero two_ne_zero (Nat.cast_ne_zero.mpr (Nat.ne_of_gt (Nat.zero_lt_of_lt hj)))
  have : ((N - 1 - j : ℕ) : ℝ) = (N : ℝ) - 1 - j := by
    rw [Nat.sub_sub, Nat.cast_sub (by omega)]; push_cast; ring
  rw [eq_sub_iff_add_eq, θ, θ, this, ← add_div, div_eq_iff hNr]
  ring

theorem cos_reflect (N k j : ℕ) (hj : j < N) :
    Real.cos ((k : ℝ) * θ N (N - 1 - j)) = (-1) ^ k * Real.cos ((k : ℝ) * θ N j) := by
  rw [θ_reflect N j hj, mul_sub, Real.cos_nat_mul_pi_sub]

theorem dctCoef_reflect (N : ℕ) (y : ℕ → ℝ) (k : ℕ) :
    dctCoef N (fun j => y (N - 1 - j)) k = (-1) ^ k * dctCoef N y k := by
  have hr := sum_range_reflect (δ := ℝ) (fun j : ℕ => y j * Real.cos ((k : ℝ) * θ N j)) N
  beta_reduce at hr
  have hs : ∑ j ∈ range N, y (N - 1 - j) * Real.cos ((k : ℝ) * θ N j)
      = (-1) ^ k * ∑ j ∈ range N, y j * Real.cos ((k : ℝ) * θ N j) := by
    rw [← hr, mul_sum]
    refine sum_congr rfl fun j hj => ?_
    have h1 : ((-1 : ℝ) ^ k) * ((-1) ^ k) = 1 := by
      rw [← pow_add, ← two_mul]; exact Even.neg_one_pow (even_two_mul k)
    rw [cos_reflect N k j (mem_range.mp hj)]
    linear_combination (-(y (N - 1 - j) * Real.cos ((k : ℝ) * θ N j))) * h1
  simp only [dctCoef]
  rw [hs]; ring

theorem dctCoef_congr (N : ℕ) (y z : ℕ → ℝ) (h : ∀ j < N, y j = z j) (k : ℕ) :
    dctCoef N y k = dctCoef N z k := by
  unfold dctCoef
  congr 1
  exact sum_congr rfl fun j hj => by rw [h j (mem_range.mp hj)]

theorem dctCoef_neg (N : ℕ) (y : ℕ → ℝ) (k : ℕ) :
    dctCoef N (fun j => - y j) k = - dctCoef N y k := by
  unfold dctCoef
  simp only [neg_mul, sum_neg_distrib, mul_neg]

theorem dctCoef_even (N : ℕ) (y : ℕ → ℝ) (hy : ∀ j < N, y (N - 1 - j) = y j)
    (k : ℕ) (hk : Odd k) : dctCoef N y k = 0 := by
  have h1 := dctCoef_reflect N y k
  rw [dctCoef_congr N _ y hy k, hk.neg_one_pow] at h1
  linarith

theorem dctCoef_odd (N : ℕ) (y : ℕ → ℝ) (hy : ∀ j < N, y (N - 1 - j) = - y j)
    (k : ℕ) (hk : Even k) : dctCoef N y k = 0 := by
  have h1 := dctCoef_reflect N y k
  rw [dctCoef_congr N _ (fun j => - y j) hy k, dctCoef_neg, hk.neg_one_pow] at h1
  linarith

end QSP
