/-
  The algebra of pairs `(A, B)` of Laurent polynomials with the product of `LAlg.__mul__` (`DS.P2`, a
  monoid): what an element of the model denotes (`pden`), without a square root of `-1`;
  `unitary_from_angles` computes the product `angP` and stores it on the window `-n .. n`
  (`fromAngles_spec`); elements given by two coefficient lists on a window (`X`, `Win`, `PWin`).
-/
import QSP.Proofs.LAOps
import Mathlib.Tactic.LinearCombination
open LaurentPolynomial
namespace QSP
variable {R : Type} [CommRing R]

namespace DS

/-! ### the monoid of pairs -/

/-- pairs `A + B·iX` of Laurent polynomials -/
@[ext] structure P2 (R : Type) [CommRing R] where
  A : R[T;T⁻¹]
  B : R[T;T⁻¹]

noncomputable instance : Mul (P2 R) := ⟨fun g h => ⟨g.A * h.A - g.B * invert h.B, g.A * h.B + g.B * invert h.A⟩⟩
noncomputable instance : One (P2 R) := ⟨⟨1, 0⟩⟩

theorem mul_A (g h : P2 R) : (g * h).A = g.A * h.A - g.B * invert h.B := rfl
theorem mul_B (g h : P2 R) : (g * h).B = g.A * h.B + g.B * invert h.A := rfl
@[simp] theorem one_A : (1 : P2 R).A = 1 := rfl
@[simp] theorem one_B : (1 : P2 R).B = 0 := rfl

protected theorem P2.mul_assoc (a b c : P2 R) : a * b * c = a * (b * c) := by
  refine P2.ext ?_ ?_
  · simp only [mul_A, mul_B, invert_add, invert_mul, invert_invert]; ring
  · simp only [mul_A, mul_B, invert_sub, invert_mul, invert_invert]; ring

protected theorem P2.one_mul (a : P2 R) : 1 * a = a := by
  refine P2.ext ?_ ?_
  · rw [mul_A, one_A, one_B, one_mul, zero_mul, sub_zero]
  · rw [mul_B, one_A, one_B, one_mul, zero_mul, add_zero]

protected theorem P2.mul_one (a : P2 R) : a * 1 = a := by
  refine P2.ext ?_ ?_
  · rw [mul_A, one_A, one_B, mul_one, invert_zero, mul_zero, sub_zero]
  · rw [mul_B, one_A, one_B, mul_zero, invert_one, mul_one, zero_add]

noncomputable instance : Monoid (P2 R) where
  mul_assoc := P2.mul_assoc
  one_mul := P2.one_mul
  mul_one := P2.mul_one

/-! ### conjugate and norm -/

/-- `LAlg.__invert__`, `~g` -/
noncomputable def conj (g : P2 R) : P2 R := ⟨invert g.A, -g.B⟩

/-- `pnorm`: the `A` component of `g · ~g` (the `B` component is `0`, `self_mul_conj`); the determinant of the
    matrix of `g` -/
noncomputable def nrm (g : P2 R) : R[T;T⁻¹] := g.A * invert g.A + g.B * invert g.B

theorem nrm_one : nrm (1 : P2 R) = 1 := by
  rw [nrm, one_A, one_B, invert_one, invert_zero, mul_one, mul_zero, add_zero]

theorem nrm_mul (g h : P2 R) : nrm (g * h) = nrm g * nrm h := by
  simp only [nrm, mul_A, mul_B, invert_add, invert_sub, invert_mul, invert_invert]; ring

theorem conj_mul_self (g : P2 R) : conj g * g = ⟨nrm g, 0⟩ := by
  refine P2.ext ?_ ?_
  · simp only [mul_A, conj, nrm]; ring
  · simp only [mul_B, conj]; ring

theorem self_mul_conj (g : P2 R) : g * conj g = ⟨nrm g, 0⟩ := by
  refine P2.ext ?_ ?_
  · simp only [mul_A, conj, nrm, invert_neg]; ring
  · simp only [mul_B, conj, invert_invert]; ring

theorem conj_mul_self_of_nrm {g : P2 R} (h : nrm g = 1) : conj g * g = 1 := by
  rw [conj_mul_self, h]; rfl

theorem self_mul_conj_of_nrm {g : P2 R} (h : nrm g = 1) : g * conj g = 1 := by
  rw [self_mul_conj, h]; rfl

theorem left_cancel {N Y Z : P2 R} (hn : nrm N = 1) (h : N * Y = N * Z) : Y = Z := by
  have := congrArg (fun g => conj N * g) h
  simpa only [← mul_assoc, conj_mul_self_of_nrm hn, one_mul] using this

theorem conj_one : conj (1 : P2 R) = 1 := P2.ext invert_one neg_zero

theorem conj_conj (g : P2 R) : conj (conj g) = g := by
  refine P2.ext ?_ ?_ <;> simp [conj, invert_invert]

theorem conj_mul (g h : P2 R) : conj (g * h) = conj h * conj g := by
  refine P2.ext ?_ ?_
  · simp only [conj, mul_A, invert_sub, invert_mul, invert_invert, invert_neg]; ring
  · simp only [conj, mul_B, invert_invert]; ring

/-! ### the product of a phase list -/

noncomputable def rot (c : R × R) : P2 R := ⟨C c.1, C c.2⟩
/-- the signal `w` -/
noncomputable def W : P2 R := ⟨T 1, 0⟩

theorem nrm_rot (c : R × R) : nrm (rot c) = C (c.1 ^ 2 + c.2 ^ 2) := by
  simp only [nrm, rot, invert_C, pow_two, RingHom.map_add, RingHom.map_mul]

/-- the pair `(cos φ, sin φ)` of a phase: the hypothesis `c.1 ^ 2 + c.2 ^ 2 = 1` of the property theorems
    under a name (a hypothesis in either form is accepted for the other) -/
def UnitPair (c : R × R) : Prop := c.1 ^ 2 + c.2 ^ 2 = 1

theorem UnitPair.eq_zero {c : R × R} (h : UnitPair c) {a : R} (h1 : a * c.1 = 0) (h2 : a * c.2 = 0) :
    a = 0 := by
  unfold UnitPair at h
  linear_combination (-a) * h + c.1 * h1 + c.2 * h2

theorem nrm_rot_unit {c : R × R} (h : UnitPair c) : nrm (rot c) = 1 := by
  unfold UnitPair at h
  rw [nrm_rot, h, map_one]

theorem nrm_W : nrm (W : P2 R) = 1 := by
  simp only [nrm, W, invert_T, ← T_add, invert_zero, mul_zero, add_zero, add_neg_cancel, T_zero]

noncomputable def tailP (cs : List (R × R)) : P2 R := (cs.map fun c => W * rot c).prod

/-- `R(c0) W R(c1) … W R(cn)`; `1` for the empty list -/
noncomputable def angP : List (R × R) → P2 R
  | [] => 1
  | c :: cs => rot c * tailP cs

theorem tailP_nil : tailP ([] : List (R × R)) = 1 := rfl
theorem tailP_cons (c : R × R) (cs : List (R × R)) : tailP (c :: cs) = W * rot c * tailP cs := by
  simp [tailP]
theorem tailP_append (a b : List (R × R)) : tailP (a ++ b) = tailP a * tailP b := by
  simp [tailP]

/-- the fold of `unitary_from_angles` -/
theorem foldl_eq (M : P2 R) (cs : List (R × R)) :
    cs.foldl (fun M c' => M * W * rot c') M = M * tailP cs := by
  induction cs generalizing M with
  | nil => simp [tailP_nil]
  | cons c cs ih => rw [List.foldl_cons, ih, tailP_cons]; simp only [mul_assoc]

theorem nrm_tailP (cs : List (R × R)) (h : ∀ c ∈ cs, UnitPair c) : nrm (tailP cs) = 1 := by
  induction cs with
  | nil => exact nrm_one
  | cons c cs ih =>
    rw [tailP_cons, nrm_mul, nrm_mul, nrm_W, nrm_rot_unit (h c (List.mem_cons_self ..)),
      ih fun c' hc' => h c' (List.mem_cons_of_mem _ hc'), one_mul, one_mul]

theorem nrm_angP (cs : List (R × R)) (h : ∀ c ∈ cs, UnitPair c) : nrm (angP cs) = 1 := by
  cases cs with
  | nil => exact nrm_one
  | cons c cs =>
    rw [angP, nrm_mul, nrm_rot_unit (h c (List.mem_cons_self ..)),
      nrm_tailP cs fun c' hc' => h c' (List.mem_cons_of_mem _ hc'), one_mul]

/-! ### what a model element denotes -/

noncomputable def pden (g : LA R) : P2 R := ⟨den g.I, den g.X⟩

theorem pden_mul {g h r : LA R} (hg : g.WF) (hh : h.WF) (e : g.mul h = .ok r) :
    pden r = pden g * pden h := by
  obtain ⟨h1, h2, -⟩ := LA.mul_ok hg hh e
  exact P2.ext h1 h2

theorem pden_mulR_w {g r : LA R} (hg : g.WF) (e : g.mulR LP.w = .ok r) : pden r = pden g * W := by
  obtain ⟨h1, h2, -⟩ := LA.mulR_ok hg WF_w e
  refine P2.ext ?_ ?_
  · simp only [pden, mul_A, W, h1, den_w, invert_zero, mul_zero, sub_zero]
  · simp only [pden, mul_B, W, h2, den_w, mul_zero, zero_add]

theorem pden_rotation (c : R × R) : pden (LA.rotation c) = rot c := by
  simp [pden, rot, LA.rotation, den_const]

theorem pden_conj {g r : LA R} (hg : g.WF) (e : g.conj = .ok r) : pden r = conj (pden g) := by
  obtain ⟨h1, h2, -⟩ := LA.conj_ok hg e
  exact P2.ext h1 h2

/-! ### elements stored on the window `-n .. n` -/

/-- both components of `g` are stored on `-n .. n` and not flagged zero: the form in which `unitary_from_angles`
    returns an element of degree `n` (`LA.On` at that window, `Rng_iff`) -/
def Rng (n : ℕ) (g : LA R) : Prop :=
  g.NZ ∧ g.I.dmin = -(n : ℤ) ∧ g.I.dmax = n ∧ g.X.dmin = -(n : ℤ) ∧ g.X.dmax = n

theorem Rng_iff {n : ℕ} {g : LA R} : Rng n g ↔ g.On (-(n : ℤ)) n (-(n : ℤ)) n :=
  ⟨fun ⟨h, a, b, c, d⟩ => ⟨⟨h.1.1.1, h.1.2, a, b⟩, ⟨h.2.1.1.1, h.2.1.2, c, d⟩, rfl⟩,
   fun h => ⟨h.nz, h.I.lo_eq, h.I.hi_eq, h.X.lo_eq, h.X.hi_eq⟩⟩

theorem Rng.wf {n : ℕ} {g : LA R} (h : Rng n g) : g.WF := h.1.wf
theorem Rng.dmin_I {n : ℕ} {g : LA R} (h : Rng n g) : g.I.dmin = -(n : ℤ) := h.2.1
theorem Rng.dmin_X {n : ℕ} {g : LA R} (h : Rng n g) : g.X.dmin = -(n : ℤ) := h.2.2.2.1

theorem Rng.shape {n : ℕ} {g : LA R} (h : Rng n g) :
    g.I = ⟨g.I.coefs, -(n : ℤ), false⟩ ∧ g.X = ⟨g.X.coefs, -(n : ℤ), false⟩ ∧
    g.I.coefs.length = n + 1 ∧ g.X.coefs.length = n + 1 := by
  obtain ⟨hI, hX, -⟩ := Rng_iff.mp h
  have := hI.length
  have := hX.length
  exact ⟨hI.eq_mk, hX.eq_mk, by omega, by omega⟩

theorem Rng.eq_mk {n : ℕ} {g : LA R} (h : Rng n g) :
    g = ⟨⟨g.I.coefs, -(n : ℤ), false⟩, ⟨g.X.coefs, -(n : ℤ), false⟩⟩ :=
  (congrArg₂ LA.mk h.shape.1 h.shape.2.1 : (⟨g.I, g.X⟩ : LA R) = _)

theorem Rng.ext {n : ℕ} {g g' : LA R} (h : Rng n g) (h' : Rng n g') (e : pden g = pden g') :
    g = g' :=
  (Rng_iff.mp h).ext (Rng_iff.mp h') (congrArg P2.A e) (congrArg P2.B e)

theorem Rng_unique {n m : ℕ} {g : LA R} (h : Rng n g) (h' : Rng m g) : n = m := by
  have := h.dmin_I; have := h'.dmin_I; omega

theorem conj_rng {n : ℕ} {g r : LA R} (hg : Rng n g) (e : g.conj = .ok r) : Rng n r := by
  obtain ⟨r', e', o⟩ := (Rng_iff.mp hg).conj
  cases ok_inj e e'
  exact Rng_iff.mpr (by rwa [neg_neg] at o)

/-! ### `unitary_from_angles` -/

/-- one step `acc ↦ acc * w * rotation(c)` of `unitary_from_angles` -/
theorem step_spec {n : ℕ} {acc : LA R} (c : R × R) (hacc : Rng n acc) :
    ∃ a b, acc.mulR LP.w = .ok a ∧ a.mul (LA.rotation c) = .ok b ∧ Rng (n + 1) b ∧
      pden b = pden acc * W * rot c := by
  obtain ⟨a, ha, oa⟩ := (Rng_iff.mp hacc).mulR On_w
  obtain ⟨b, hb, ob⟩ := oa.mul (On_rotation c)
  refine ⟨a, b, ha, hb, Rng_iff.mpr ?_, ?_⟩
  · -- the four window ends that `LA.On.mulR`, `LA.On.mul` name are `∓(n + 1)`
    have hlo : min (-(n : ℤ) + 1 + 0) (-(n : ℤ) + -1 + -0) = -((n + 1 : ℕ) : ℤ) := by push_cast; omega
    have hhi : max ((n : ℤ) + 1 + 0) ((n : ℤ) + -1 + -0) = ((n + 1 : ℕ) : ℤ) := by push_cast; omega
    rwa [hlo, hhi] at ob
  · rw [pden_mul oa.nz.wf (WF_rotation c) hb, pden_mulR_w hacc.wf ha, pden_rotation]

theorem fromAnglesAux_spec (cs : List (R × R)) (n : ℕ) (acc : LA R) (hacc : Rng n acc) :
    ∃ g, LA.fromAnglesAux acc cs = .ok g ∧ pden g = pden acc * tailP cs ∧
      Rng (n + cs.length) g := by
  induction cs generalizing acc n with
  | nil => exact ⟨acc, rfl, by simp [tailP_nil], hacc⟩
  | cons c cs ih =>
    obtain ⟨a, b, ha, hb, rb, db⟩ := step_spec c hacc
    obtain ⟨g, hg, hm, hr⟩ := ih (n + 1) b rb
    refine ⟨g, ?_, ?_, ?_⟩
    · rw [LA.fromAnglesAux, ha, ok_bind, hb, ok_bind]
      exact hg
    · rw [hm, db, tailP_cons]; simp only [mul_assoc]
    · rw [List.length_cons, show n + (cs.length + 1) = n + 1 + cs.length by omega]; exact hr

theorem fromAngles_spec (cs : List (R × R)) (n : ℕ) (hlen : cs.length = n + 1) :
    ∃ g, LA.fromAngles cs = .ok g ∧ pden g = angP cs ∧ Rng n g := by
  cases cs with
  | nil => simp at hlen
  | cons c cs =>
    obtain ⟨g, hg, hm, hr⟩ := fromAnglesAux_spec cs 0 _ (Rng_iff.mpr (On_rotation c))
    refine ⟨g, hg, by rw [hm, pden_rotation]; rfl, ?_⟩
    simp only [List.length_cons, Nat.add_right_cancel_iff] at hlen
    rw [zero_add, hlen] at hr; exact hr

theorem fromAngles_ok {ps : List (R × R)} {g : LA R} {n : ℕ} (hlen : ps.length = n + 1)
    (h : LA.fromAngles ps = .ok g) : pden g = angP ps ∧ Rng n g := by
  obtain ⟨g', hg', dg, rg⟩ := fromAngles_spec ps n hlen
  cases ok_inj h hg'
  exact ⟨dg, rg⟩

theorem fromAngles_congr {ps qs : List (R × R)} {n : ℕ} (hp : ps.length = n + 1)
    (hq : qs.length = n + 1) (h : angP ps = angP qs) : LA.fromAngles ps = LA.fromAngles qs := by
  obtain ⟨g, hg, dg, rg⟩ := fromAngles_spec ps n hp
  obtain ⟨g', hg', dg', rg'⟩ := fromAngles_spec qs n hq
  rw [hg, hg', rg.ext rg' (by rw [dg, dg', h])]

/-! ### elements given by two coefficient lists on a window -/

/-- the pair whose components have the coefficient lists `a`, `b` read from the power `-e` in steps of two:
    `pden` of an element stored on `-e .. e` (`Rng.pden_eq`), `vec(l)` of `linear_system` as an element -/
noncomputable def X (a b : List R) (e : ℕ) : P2 R := ⟨denL a (-(e : ℤ)), denL b (-(e : ℤ))⟩

/-- degree `≤ e`: no power outside `-e .. e` occurs in either component -/
def Win (e : ℤ) (u : P2 R) : Prop :=
  ∀ k : ℤ, (k < -e ∨ e < k) → u.A.coeff k = 0 ∧ u.B.coeff k = 0

/-- `Win e` and only powers of the parity of `e` occur: what two lists of length `e + 1` denote (`X_pwin`) -/
def PWin (e : ℕ) (u : P2 R) : Prop :=
  ∀ k : ℤ, (k < -(e : ℤ) ∨ (e : ℤ) < k ∨ (k + e) % 2 ≠ 0) → u.A.coeff k = 0 ∧ u.B.coeff k = 0

theorem PWin.win {e : ℕ} {u : P2 R} (h : PWin e u) : Win e u :=
  fun k hk => h k (hk.imp_right Or.inl)

theorem denL_pwin {l : List R} {e : ℕ} (h : l.length = e + 1) {k : ℤ}
    (hk : k < -(e : ℤ) ∨ (e : ℤ) < k ∨ (k + e) % 2 ≠ 0) : (denL l (-(e : ℤ))).coeff k = 0 := by
  rcases hk with hk | hk | hk
  · exact denL_coeff_of_lt hk
  · exact denL_coeff_of_gt (by rw [h]; push_cast; omega)
  · exact denL_coeff_of_odd (by rwa [sub_neg_eq_add])

theorem X_pwin (a b : List R) (e : ℕ) (ha : a.length = e + 1) (hb : b.length = e + 1) :
    PWin e (X a b e) :=
  fun _ hk => ⟨denL_pwin ha hk, denL_pwin hb hk⟩

theorem X_win (a b : List R) (e : ℕ) (ha : a.length = e + 1) (hb : b.length = e + 1) :
    Win e (X a b e) :=
  (X_pwin a b e ha hb).win

theorem X_inj {a b a' b' : List R} {e : ℕ} (ha : a.length = a'.length) (hb : b.length = b'.length)
    (h : X a b e = X a' b' e) : a = a' ∧ b = b' :=
  ⟨denL_inj ha (congrArg P2.A h), denL_inj hb (congrArg P2.B h)⟩

theorem Rng.pden_eq {n : ℕ} {g : LA R} (h : Rng n g) : pden g = X g.I.coefs g.X.coefs n := by
  rw [pden, X, den, den, h.dmin_I, h.dmin_X]

/-! ### the value at `w = 1` -/

/-- evaluation at `w = 1` -/
noncomputable def e1 : R[T;T⁻¹] →+* R := LaurentPolynomial.eval₂ (RingHom.id R) 1

theorem e1_T (k : ℤ) : e1 (T k : R[T;T⁻¹]) = 1 := by simp [e1, eval₂_T]
theorem e1_C (c : R) : e1 (C c : R[T;T⁻¹]) = c := by simp [e1, eval₂_C]

theorem e1_invert (f : R[T;T⁻¹]) : e1 (invert f) = e1 f := by
  induction f using LaurentPolynomial.induction_on' with
  | add p q hp hq => rw [invert_add, RingHom.map_add, RingHom.map_add, hp, hq]
  | C_mul_T n a => rw [invert_mul, RingHom.map_mul, RingHom.map_mul, invert_C, invert_T, e1_T, e1_T]

theorem e1_denL (l : List R) (d : ℤ) : e1 (denL l d) = l.sum := by
  induction l generalizing d with
  | nil => rw [denL_nil, RingHom.map_zero, List.sum_nil]
  | cons c cs ih => rw [denL_cons, RingHom.map_add, RingHom.map_mul, e1_C, e1_T, mul_one, ih, List.sum_cons]

theorem evalAt_one (p : LP R) (hp : p.WF) : p.evalAt 1 1 = e1 (den p) := by
  have h := evalAt_eq p hp (1 : Rˣ)
  rwa [inv_one, Units.val_one] at h

/-- `g(Id)`: an element at `w = 1` is the rotation `A(1) + B(1)·iX`, given as the pair `(A(1), B(1))`; the
    product becomes `rotMul` (`ev1_mul` in `QSP/Proofs/DecompSolve.lean`) -/
noncomputable def ev1 (g : P2 R) : R × R := (e1 g.A, e1 g.B)

end DS

end QSP
