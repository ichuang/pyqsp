/-
  The list structure of `JacImpl.jacImplCore` (`QSP/Model/JacImpl.lean`, the body of
  `gen_poly_jacobian_components`) over a commutative ring: entry `k < n` and entry `n` of the
  returned list are middle components of chains of the 3×3 maps, free of the lists `L`, `R`:
  `vecS` up to position `k` and `vecU` after it for an arbitrary start column `R[:,0]` (the primed
  forms, which the perturbation bound needs), a single chain `vecU` for a start column `B·w0`.
-/
import QSP.Model.JacImpl
import Mathlib.Tactic.Ring
import Mathlib.Data.List.GetD
import Mathlib.Algebra.Ring.Defs

namespace QSP
namespace JacImpl
variable {R : Type} [CommRing R]

/-! ## the 3×3 operations -/

theorem two_eq : (two : R) = 2 := one_add_one_eq_two

theorem dot_vecMat (w : V3 R) (M : Mat3 R) (u : V3 R) :
    dot (vecMat w M) u = dot w (matVec M u) := by
  simp only [dot, vecMat, matVec]; ring

theorem dot_dbl3 (w u : V3 R) : dot (dbl3 w) u = two * dot w u := by
  simp only [dot, dbl3]; ring

theorem vecMat_dbl3 (w : V3 R) (M : Mat3 R) : vecMat (dbl3 w) M = dbl3 (vecMat w M) := by
  simp only [vecMat, dbl3, Prod.mk.injEq]
  exact ⟨by ring, by ring, by ring⟩

theorem matVec_dbl3 (M : Mat3 R) (v : V3 R) : matVec M (dbl3 v) = dbl3 (matVec M v) := by
  simp only [matVec, dbl3, Prod.mk.injEq]
  exact ⟨by ring, by ring, by ring⟩

/-! ## chains of the 3×3 maps -/

/-- the chain `v ↦ Rz(q_m)·B· … ·Rz(q_1)·B·v` -/
def vecU (B : Mat3 R) : V3 R → List (R × R) → V3 R
  | v, [] => v
  | v, q :: qs => vecU B (matVec (rzMat q) (matVec B v)) qs

/-- the chain `v ↦ B·Rz(q_m)· … ·B·Rz(q_1)·v` (what the columns of `R` hold) -/
def vecS (B : Mat3 R) : V3 R → List (R × R) → V3 R
  | v, [] => v
  | v, q :: qs => vecS B (matVec B (matVec (rzMat q) v)) qs

theorem vecU_dbl3 (B : Mat3 R) (v : V3 R) (qs : List (R × R)) :
    vecU B (dbl3 v) qs = dbl3 (vecU B v qs) := by
  induction qs generalizing v with
  | nil => rfl
  | cons q qs ih => simp only [vecU, matVec_dbl3, ih]

theorem matVec_vecU (B : Mat3 R) (w : V3 R) (qs : List (R × R)) :
    matVec B (vecU B w qs) = vecS B (matVec B w) qs := by
  induction qs generalizing w with
  | nil => rfl
  | cons q qs ih => simp only [vecU, vecS, ih]

theorem vecU_append (B : Mat3 R) (w : V3 R) (qs rs : List (R × R)) :
    vecU B w (qs ++ rs) = vecU B (vecU B w qs) rs := by
  induction qs generalizing w with
  | nil => rfl
  | cons q qs ih => simp only [List.cons_append, vecU, ih]

/-! ## the lists `L` and `R` -/

/-- the row `[0,1,0]·Rz(q_m)·B· … ·Rz(q_1)·B` as a recursion from the front -/
def lHead (B : Mat3 R) : List (R × R) → V3 R
  | [] => (0, 1, 0)
  | q :: qs => vecMat (vecMat (lHead B qs) (rzMat q)) B

theorem lRows_getD (B : Mat3 R) (qs : List (R × R)) (k : ℕ) :
    (lRows B qs).getD k (0, 1, 0) = lHead B (qs.drop k) := by
  induction qs generalizing k with
  | nil => cases k <;> rfl
  | cons q qs ih =>
    have h : lRows B (q :: qs) = lHead B (q :: qs) :: lRows B qs := by
      simp only [lRows, lHead, List.headD_eq_getD, ih 0, List.drop_zero]
    rw [h]
    cases k with
    | zero => rfl
    | succ k => exact ih k

theorem dot_lHead (B : Mat3 R) (qs : List (R × R)) (u : V3 R) :
    dot (lHead B qs) u = (vecU B u qs).2.1 := by
  induction qs generalizing u with
  | nil => simp only [lHead, dot, vecU]; ring
  | cons q qs ih => simp only [lHead, dot_vecMat, ih, vecU]

theorem rCols_length (B : Mat3 R) (v : V3 R) (ps : List (R × R)) :
    (rCols B v ps).length = ps.length := by
  induction ps generalizing v with
  | nil => rfl
  | cons p ps ih => simp only [rCols, List.length_cons, ih]

theorem rCols_getD (B : Mat3 R) (v : V3 R) (ps : List (R × R)) (k : ℕ) (hk : k < ps.length) :
    (rCols B v ps).getD k (0, 0, 0) = vecS B v (ps.take k) := by
  induction ps generalizing v k with
  | nil => simp at hk
  | cons p ps ih =>
    cases k with
    | zero => simp only [rCols, List.getD_cons_zero, List.take_zero, vecS]
    | succ k =>
      simp only [List.length_cons, Nat.add_lt_add_iff_right] at hk
      simp only [rCols, List.getD_cons_succ, List.take_succ_cons, vecS, ih _ _ hk]

/-! ## the entries of the returned list -/

theorem jacImplCore_length (B : Mat3 R) (r0 : V3 R) (pairs2 : List (R × R)) :
    (jacImplCore B r0 pairs2).length = pairs2.length + 1 := by
  simp only [jacImplCore, List.length_append, List.length_map, List.length_range, List.length_cons,
    List.length_nil]

theorem jacImplCore_getD_lt' (B : Mat3 R) (r0 : V3 R) (pairs2 : List (R × R)) (k : ℕ)
    (hk : k < pairs2.length) :
    (jacImplCore B r0 pairs2).getD k 0
      = two * (vecU B (matVec (dMat (pairs2.getD k (1, 0))) (vecS B r0 (pairs2.take k)))
          (pairs2.drop (k + 1))).2.1 := by
  unfold jacImplCore
  simp only
  rw [List.getD_append _ _ _ _ (by simpa using hk)]
  rw [List.getD_eq_getElem _ _ (by simpa using hk)]
  simp only [List.getElem_map, List.getElem_range]
  rw [lRows_getD, rCols_getD _ _ _ _ hk, vecMat_dbl3, dot_dbl3, dot_vecMat, dot_lHead,
    List.drop_tail]

theorem jacImplCore_getD_last' (B : Mat3 R) (r0 : V3 R) (pairs2 : List (R × R))
    (hn : pairs2 ≠ []) :
    (jacImplCore B r0 pairs2).getD pairs2.length 0
      = (matVec (rzMat (pairs2.getD (pairs2.length - 1) (1, 0)))
          (vecS B r0 (pairs2.take (pairs2.length - 1)))).2.1 := by
  have hpos : 0 < pairs2.length := List.length_pos_iff.mpr hn
  unfold jacImplCore
  simp only
  rw [List.getD_append_right _ _ _ _ (by simp)]
  simp only [List.length_map, List.length_range, Nat.sub_self, List.getD_cons_zero]
  rw [lRows_getD, rCols_getD _ _ _ _ (by omega), dot_vecMat, List.drop_tail,
    Nat.sub_add_cancel hpos, List.drop_length, lHead]
  simp only [dot]; ring

theorem jacImplCore_getD_lt (B : Mat3 R) (w0 : V3 R) (pairs2 : List (R × R)) (k : ℕ)
    (hk : k < pairs2.length) :
    (jacImplCore B (matVec B w0) pairs2).getD k 0
      = (vecU B (dbl3 (matVec (dMat (pairs2.getD k (1, 0)))
          (matVec B (vecU B w0 (pairs2.take k))))) (pairs2.drop (k + 1))).2.1 := by
  rw [jacImplCore_getD_lt' _ _ _ k hk, vecU_dbl3, matVec_vecU]; rfl

theorem jacImplCore_getD_last (B : Mat3 R) (w0 : V3 R) (pairs2 : List (R × R))
    (hn : pairs2 ≠ []) :
    (jacImplCore B (matVec B w0) pairs2).getD pairs2.length 0 = (vecU B w0 pairs2).2.1 := by
  have hpos : 0 < pairs2.length := List.length_pos_iff.mpr hn
  rw [jacImplCore_getD_last' _ _ _ hn, ← matVec_vecU]
  conv_rhs => rw [← List.take_append_drop (pairs2.length - 1) pairs2, vecU_append,
    List.drop_eq_getElem_cons (by omega), Nat.sub_add_cancel hpos, List.drop_length]
  rw [List.getD_eq_getElem _ _ (by omega)]; rfl

end JacImpl
end QSP
