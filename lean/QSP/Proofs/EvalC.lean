/-
  Evaluation of real Laurent polynomials on the unit circle, the link to `FW` of
  `QSP/Proofs/Sup.lean`, and the 1-norm bound (`l1` of `QSP/Model/Ball.lean`).
-/
import QSP.Model.Ball
import QSP.Proofs.Den
import QSP.Proofs.Sup
import Mathlib.Algebra.Polynomial.Laurent
import Mathlib.Analysis.Complex.Exponential
import Mathlib.Analysis.Complex.Trigonometric

open LaurentPolynomial Complex
namespace QSP

/-- `e^{iθ}` as a unit of `ℂ`, the point at which `LaurentPolynomial.eval₂` evaluates -/
noncomputable def circ (θ : ℝ) : ℂˣ :=
  ⟨exp (θ * I), exp (-(θ * I)), by rw [← exp_add]; simp, by rw [← exp_add]; simp⟩

/-- evaluation of a real Laurent polynomial at `e^{iθ}` -/
noncomputable def evalC (θ : ℝ) : ℝ[T;T⁻¹] →+* ℂ :=
  LaurentPolynomial.eval₂ (algebraMap ℝ ℂ) (circ θ)

theorem evalC_T (θ : ℝ) (k : ℤ) : evalC θ (T k) = exp ((θ : ℂ) * I) ^ k := by
  simp only [evalC, eval₂_T]
  rw [Units.val_zpow_eq_zpow_val]
  rfl

theorem evalC_C (θ : ℝ) (c : ℝ) : evalC θ (C c) = (c : ℂ) := by
  simp [evalC, eval₂_C]

theorem norm_evalC_T (θ : ℝ) (k : ℤ) : ‖evalC θ (T k)‖ = 1 := by
  rw [evalC_T, norm_zpow, Complex.norm_exp_ofReal_mul_I, one_zpow]

/-- the coefficient 1-norm, over the reals (`l1` of the model over `ℚ`: `l1_cast`) -/
def l1R : List ℝ → ℝ
  | [] => 0
  | c :: cs => |c| + l1R cs

theorem l1R_nonneg (cs : List ℝ) : 0 ≤ l1R cs := by
  induction cs with
  | nil => simp [l1R]
  | cons c cs ih => simp only [l1R]; positivity

theorem norm_evalC_denL_le (θ : ℝ) (cs : List ℝ) (d : ℤ) : ‖evalC θ (denL cs d)‖ ≤ l1R cs := by
  induction cs generalizing d with
  | nil => simp [denL, l1R]
  | cons c cs ih =>
    simp only [denL, l1R, map_add, map_mul]
    refine (norm_add_le _ _).trans (add_le_add ?_ (ih _))
    rw [norm_mul, norm_evalC_T, mul_one, evalC_C, Complex.norm_real, Real.norm_eq_abs]

/-! ### inversion `T ↦ T⁻¹` is `θ ↦ -θ`, i.e. complex conjugation -/

theorem eval₂_invert {R S : Type} [CommSemiring R] [CommSemiring S] (f : R →+* S) (x : Sˣ)
    (p : R[T;T⁻¹]) : eval₂ f x (invert p) = eval₂ f x⁻¹ p := by
  induction p using LaurentPolynomial.induction_on' with
  | add p q hp hq => simp only [map_add, hp, hq]
  | C_mul_T n a => simp only [map_mul, invert_C, invert_T, eval₂_C, eval₂_T, zpow_neg, inv_zpow]

theorem circ_neg (θ : ℝ) : circ (-θ) = (circ θ)⁻¹ := by
  ext; simp [circ]

theorem evalC_invert (θ : ℝ) (f : ℝ[T;T⁻¹]) : evalC θ (invert f) = evalC (-θ) f := by
  rw [evalC, eval₂_invert, ← circ_neg]; rfl

theorem evalC_neg_eq_conj (θ : ℝ) (f : ℝ[T;T⁻¹]) :
    evalC (-θ) f = (starRingEnd ℂ) (evalC θ f) := by
  induction f using LaurentPolynomial.induction_on' with
  | add p q hp hq => simp only [map_add, hp, hq]
  | C_mul_T n a =>
    simp only [map_mul, evalC_C, evalC_T, Complex.conj_ofReal, map_zpow₀, ← Complex.exp_conj,
      Complex.conj_I, Complex.ofReal_neg, neg_mul, mul_neg]

theorem evalC_invert_conj (θ : ℝ) (f : ℝ[T;T⁻¹]) :
    evalC θ (invert f) = (starRingEnd ℂ) (evalC θ f) := by
  rw [evalC_invert, evalC_neg_eq_conj]

theorem norm_evalC_invert (θ : ℝ) (f : ℝ[T;T⁻¹]) : ‖evalC θ (invert f)‖ = ‖evalC θ f‖ := by
  rw [evalC_invert_conj, Complex.norm_conj]

/-! ### link to `FW` -/

theorem eval₂_denL {R : Type} [CommRing R] (f : R →+* ℂ) (x : ℂˣ) (cs : List R) (d : ℤ) :
    eval₂ f x (denL cs d) = FW (cs.map f) d x := by
  induction cs generalizing d with
  | nil => simp [FW]
  | cons c cs ih =>
    simp only [denL_cons, List.map_cons, FW, map_add, map_mul, eval₂_C, eval₂_T, ih,
      Units.val_zpow_eq_zpow_val]

theorem evalC_denL_eq_FW (θ : ℝ) (cs : List ℝ) (d : ℤ) :
    evalC θ (denL cs d) = FW (cs.map (fun c : ℝ => (c : ℂ))) d (exp (θ * I)) :=
  eval₂_denL _ _ cs d

/-! ### change of coefficient ring -/

theorem denL_map_cast {R S : Type} [CommRing R] [CommRing S] (f : R →+* S) (cs : List R)
    (d : ℤ) : denL (cs.map f) d = AddMonoidAlgebra.mapRingHom ℤ f (denL cs d) := by
  induction cs generalizing d with
  | nil => simp
  | cons c cs ih =>
    have hC : AddMonoidAlgebra.mapRingHom ℤ f (C c) = C (f c) := by
      rw [← single_eq_C, ← single_eq_C, AddMonoidAlgebra.mapRingHom_single]
    have hT : AddMonoidAlgebra.mapRingHom ℤ f (T d : R[T;T⁻¹]) = T d := by
      simp only [T, AddMonoidAlgebra.mapRingHom_single, map_one]
    simp only [List.map_cons, denL_cons, map_add, map_mul, ih, hC, hT]

theorem evalC_denL_cast_eq_FW (θ : ℝ) (cs : List ℚ) (d : ℤ) :
    evalC θ (denL (cs.map (fun q : ℚ => (q : ℝ))) d)
      = FW (cs.map (fun q : ℚ => ((q : ℝ) : ℂ))) d (exp (θ * I)) := by
  rw [evalC_denL_eq_FW, List.map_map]; rfl

/-! ### the model's 1-norm -/

theorem l1_cons (c : ℚ) (cs : List ℚ) : l1 (c :: cs) = qabs c + l1 cs := rfl

theorem l1_cast (cs : List ℚ) : ((l1 cs : ℚ) : ℝ) = l1R (cs.map (fun q : ℚ => (q : ℝ))) := by
  induction cs with
  | nil => simp [l1, l1R]
  | cons c cs ih =>
    rw [l1_cons, List.map_cons, l1R, ← ih, qabs_eq]
    push_cast
    rfl

theorem l1_nonneg (cs : List ℚ) : 0 ≤ l1 cs := by
  have : (0 : ℝ) ≤ ((l1 cs : ℚ) : ℝ) := by rw [l1_cast]; exact l1R_nonneg _
  exact_mod_cast this

theorem sup_le_l1 (cs : List ℚ) (d : ℤ) (θ : ℝ) :
    ‖evalC θ (denL (cs.map (fun q : ℚ => (q : ℝ))) d)‖ ≤ ((l1 cs : ℚ) : ℝ) := by
  rw [l1_cast]; exact norm_evalC_denL_le θ _ d

end QSP
