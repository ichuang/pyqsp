/-
  Sup-norm stability of the assembly `JacImpl.jacAssemble` in the sample matrix: the DFT of length
  `4d` with cosines of modulus at most 1 multiplies an error `ε` of the samples by at most `4d`, the
  doubling by 2, and the division by `4d` leaves `2ε`.  Hence `gen_jacobian_rat_err`: the assembly
  (exact DFT cosines) of the rows `jacImplPt` computes at rational phase pairs and node pairs
  within `δ` of `(cos 2φ_k, sin 2φ_k)` and `(cos θ_n, sin θ_n)` is within `2·jacImplErr d δ` of
  the Chebyshev coefficients `chebCoefs` of the value and `dCoefs` of every partial derivative.
-/
import QSP.Proofs.JacAsm
import QSP.Proofs.JacImplErr

open Finset
namespace QSP
namespace JacImpl

theorem abs_sgnR (par : ℕ) : |sgnR par| = 1 := by
  unfold sgnR; split_ifs <;> norm_num

theorem extRow_stab (par d : ℕ) (M M' : List (List ℝ)) (c : ℕ) (ε : ℝ)
    (hM : ∀ n ≤ d, |(M.getD n []).getD c 0 - (M'.getD n []).getD c 0| ≤ ε) (m : ℕ)
    (hm : m < 4 * d) :
    |(extRow par d M m).getD c 0 - (extRow par d M' m).getD c 0| ≤ ε := by
  have half : ∀ j ≤ 2 * d,
      |(extHalf par d M j).getD c 0 - (extHalf par d M' j).getD c 0| ≤ ε := by
    intro j hj
    rw [getD_extHalf, getD_extHalf]
    split_ifs with h1
    · exact hM j h1
    · rw [← mul_sub, abs_mul, abs_sgnR, one_mul]
      exact hM _ (by omega)
  unfold extRow
  split_ifs with h1
  · exact half m h1
  · exact half _ (by omega)

theorem dftRe_stab (cosTab : List ℝ) (N : ℕ) (hcos : ∀ j < N, |cosTab.getD j 0| ≤ 1)
    (row row' : ℕ → List ℝ) (c : ℕ) (ε : ℝ)
    (h : ∀ m < N, |(row m).getD c 0 - (row' m).getD c 0| ≤ ε) (r : ℕ) :
    |dftRe cosTab N row r c - dftRe cosTab N row' r c| ≤ (N : ℝ) * ε := by
  unfold dftRe
  rw [list_sum_range_map, list_sum_range_map, ← Finset.sum_sub_distrib]
  refine (Finset.abs_sum_le_sum_abs _ _).trans ((Finset.sum_le_sum fun m hm => ?_).trans
    (by rw [Finset.sum_const, Finset.card_range, nsmul_eq_mul]))
  have hm' := Finset.mem_range.mp hm
  rw [← mul_sub, abs_mul]
  exact (mul_le_mul (hcos _ (Nat.mod_lt _ (by omega))) (h m hm') (abs_nonneg _) zero_le_one).trans
    (one_mul _).le

theorem asmEntry_stab (par d : ℕ) (hd : 0 < d) (cosTab : List ℝ)
    (hcos : ∀ j < 4 * d, |cosTab.getD j 0| ≤ 1) (M M' : List (List ℝ)) (c : ℕ) (ε : ℝ)
    (hM : ∀ n ≤ d, |(M.getD n []).getD c 0 - (M'.getD n []).getD c 0| ≤ ε) (r : ℕ) :
    |asmEntry par d cosTab ((4 * d : ℕ) : ℝ) M r c - asmEntry par d cosTab ((4 * d : ℕ) : ℝ) M' r c|
      ≤ 2 * ε := by
  have hN : (0 : ℝ) < ((4 * d : ℕ) : ℝ) := Nat.cast_pos.mpr (by omega)
  have hdft := dftRe_stab cosTab (4 * d) hcos _ _ c ε (extRow_stab par d M M' c ε hM) r
  have hε : 0 ≤ ε := (abs_nonneg _).trans (hM 0 (Nat.zero_le _))
  unfold asmEntry
  simp only
  split_ifs
  · rw [← sub_div, ← mul_sub, abs_div, abs_mul, abs_of_pos hN, div_le_iff₀ hN, two_eq, abs_two]
    linarith
  · rw [← sub_div, abs_div, abs_of_pos hN, div_le_iff₀ hN]
    linarith [mul_nonneg hε hN.le]

theorem asmEntry_near (par : ℕ) (hpar : par ≤ 1) (red : List ℝ) (hne : red ≠ []) (cosTab : List ℝ)
    (hcos : ∀ j < 4 * red.length,
      cosTab.getD j 0 = Real.cos (2 * Real.pi * (j : ℝ) / ((4 * red.length : ℕ) : ℝ)))
    (M : List (List ℝ)) (E : ℝ)
    (hM : ∀ n ≤ red.length, ∀ c ≤ red.length,
      |(M.getD n []).getD c 0 - ((sampleMat par red).getD n []).getD c 0| ≤ E)
    (i : ℕ) (hi : i < red.length) :
    |asmEntry par red.length cosTab ((4 * red.length : ℕ) : ℝ) M (par + 2 * i) red.length
        - (chebCoefs par red).getD i 0| ≤ 2 * E ∧
    ∀ c < red.length,
      |asmEntry par red.length cosTab ((4 * red.length : ℕ) : ℝ) M (par + 2 * i) c
        - (dCoefs par red c).getD i 0| ≤ 2 * E := by
  have hd : 0 < red.length := List.length_pos_iff.mpr hne
  have hcos1 : ∀ j < 4 * red.length, |cosTab.getD j 0| ≤ 1 := by
    intro j hj
    rw [hcos j hj]; exact Real.abs_cos_le_one _
  have hex : ∀ c ≤ red.length,
      asmEntry par red.length cosTab ((4 * red.length : ℕ) : ℝ) (sampleMat par red) (par + 2 * i) c
        = if c < red.length then (dCoefs par red c).getD i 0 else (chebCoefs par red).getD i 0 :=
    fun c hc => asmEntry_eq par red.length hpar hd cosTab hcos _ (sampleMat par red) c
      (fun n hn => sampleMat_getD par hpar red hne c n hc hn) i hi
  refine ⟨?_, fun c hc => ?_⟩
  · have h := asmEntry_stab par red.length hd cosTab hcos1 M (sampleMat par red) red.length E
      (fun n hn => hM n hn _ le_rfl) (par + 2 * i)
    rwa [hex _ le_rfl, if_neg (lt_irrefl _)] at h
  · have h := asmEntry_stab par red.length hd cosTab hcos1 M (sampleMat par red) c E
      (fun n hn => hM n hn c hc.le) (par + 2 * i)
    rwa [hex c hc.le, if_pos hc] at h

/-- the sample matrix the model computes at rational inputs, cast to `ℝ`; `nodes n` is the rational
    pair used for `(cos θ_n, sin θ_n)` -/
noncomputable def ratSampleMat (par : ℕ) (Pq : List (ℚ × ℚ)) (nodes : ℕ → ℚ × ℚ) (d : ℕ) :
    List (List ℝ) :=
  (List.range (d + 1)).map fun n =>
    (jacImplPt par Pq (nodes n).1 (nodes n).2).map (fun q : ℚ => (q : ℝ))

theorem gen_jacobian_rat_err (par : ℕ) (hpar : par ≤ 1) (red : List ℝ) (hne : red ≠ [])
    (cosTab : List ℝ)
    (hcos : ∀ j < 4 * red.length,
      cosTab.getD j 0 = Real.cos (2 * Real.pi * (j : ℝ) / ((4 * red.length : ℕ) : ℝ)))
    (Pq : List (ℚ × ℚ)) (nodes : ℕ → ℚ × ℚ) (δ : ℚ) (hδ : 0 ≤ δ)
    (hlen : Pq.length = red.length)
    (hP : ∀ q ∈ (Pq.map castP2).zip (pairs2Of red),
      |q.1.1 - q.2.1| ≤ (δ : ℝ) ∧ |q.1.2 - q.2.2| ≤ (δ : ℝ))
    (hnodes : ∀ n ≤ red.length,
      |((nodes n).1 : ℝ) - Real.cos (asmNode red.length n)| ≤ (δ : ℝ) ∧
      |((nodes n).2 : ℝ) - Real.sin (asmNode red.length n)| ≤ (δ : ℝ))
    (i : ℕ) (hi : i < red.length) :
    |asmEntry par red.length cosTab ((4 * red.length : ℕ) : ℝ)
          (ratSampleMat par Pq nodes red.length) (par + 2 * i) red.length
        - (chebCoefs par red).getD i 0| ≤ 2 * ((jacImplErr red.length δ : ℚ) : ℝ) ∧
    ∀ c < red.length,
      |asmEntry par red.length cosTab ((4 * red.length : ℕ) : ℝ)
          (ratSampleMat par Pq nodes red.length) (par + 2 * i) c
        - (dCoefs par red c).getD i 0| ≤ 2 * ((jacImplErr red.length δ : ℚ) : ℝ) := by
  refine asmEntry_near par hpar red hne cosTab hcos _ _ ?_ i hi
  intro n hn c hc
  rw [sampleMat_row par red n hn, ratSampleMat, getD_range_map, if_pos (Nat.lt_succ_of_le hn),
    getD_map_ratCast]
  exact jacImplPt_rat_err par red _ Pq _ _ δ hδ (hnodes n hn).1 (hnodes n hn).2 hlen hP c hc

end JacImpl
end QSP
