/-
  The basis conversions of `QSP/Model/Cheb.lean` (`chebBasis`, `cheb2poly`, `poly2cheb`,
  `poly2laurent`, `polyToLaurentForm`) against Mathlib's Chebyshev and Laurent polynomials
  (property C11; the generators of C17 build on them).
-/
import QSP.Proofs.LPoly
import QSP.Model.Cheb
import Mathlib.RingTheory.Polynomial.Chebyshev
import Mathlib.Algebra.Polynomial.AlgebraMap
import Mathlib.Algebra.Polynomial.Laurent
import Mathlib.Tactic.Ring
import Mathlib.Tactic.LinearCombination
open LaurentPolynomial
namespace QSP

/-! ### coefficient lists as polynomials -/

section toPoly
variable {K : Type} [CommRing K]

open Polynomial in
/-- the polynomial `sum_i l[i] X^i` -/
noncomputable def toPoly : List K → Polynomial K
  | [] => 0
  | c :: cs => Polynomial.C c + Polynomial.X * toPoly cs

@[simp] theorem toPoly_nil : toPoly ([] : List K) = 0 := rfl
@[simp] theorem toPoly_cons (c : K) (cs : List K) :
    toPoly (c :: cs) = Polynomial.C c + Polynomial.X * toPoly cs := rfl

theorem toPoly_addL (a b : List K) : toPoly (addL a b) = toPoly a + toPoly b := by
  induction a generalizing b with
  | nil => rw [addL, toPoly_nil, zero_add]
  | cons x xs ih =>
    cases b with
    | nil => rw [addL, toPoly_nil, add_zero]; exact List.cons_ne_nil _ _
    | cons y ys =>
      rw [addL, toPoly_cons, toPoly_cons, toPoly_cons, ih, map_add, mul_add, add_add_add_comm]

theorem toPoly_map_mul (c : K) (l : List K) :
    toPoly (l.map (c * ·)) = Polynomial.C c * toPoly l := by
  induction l with
  | nil => rw [List.map_nil, toPoly_nil, mul_zero]
  | cons y ys ih =>
    rw [List.map_cons, toPoly_cons, toPoly_cons, ih, map_mul, mul_add, mul_left_comm]

theorem toPoly_map_neg (l : List K) : toPoly (l.map (- ·)) = - toPoly l := by
  simpa only [neg_one_mul, map_neg, map_one] using toPoly_map_mul (-1) l

theorem toPoly_subL (a b : List K) : toPoly (subL a b) = toPoly a - toPoly b := by
  rw [subL, toPoly_addL, toPoly_map_neg, sub_eq_add_neg]

theorem C_two : (Polynomial.C (two : K) : Polynomial K) = 2 := by
  rw [two, one_add_one_eq_two, map_ofNat]

theorem toPoly_mul2x (l : List K) : toPoly (mul2x l) = 2 * Polynomial.X * toPoly l := by
  rw [mul2x, toPoly_cons, toPoly_map_mul, C_two, map_zero, zero_add, mul_left_comm, mul_assoc]

theorem toPoly_convL (a b : List K) : toPoly (convL a b) = toPoly a * toPoly b := by
  induction a with
  | nil => simp [convL]
  | cons x xs ih =>
    simp only [convL, toPoly_addL, toPoly_map_mul, toPoly_cons, ih, map_zero, zero_add]
    ring

theorem toPoly_coeff (l : List K) (n : ℕ) : (toPoly l).coeff n = l.getD n 0 := by
  induction l generalizing n with
  | nil => simp
  | cons c cs ih =>
    cases n with
    | zero => simp
    | succ n => simp [Polynomial.coeff_C_succ, ih]

theorem toPoly_zeros (n : ℕ) : toPoly (zeros n : List K) = 0 := by
  induction n with
  | zero => rfl
  | succ n ih =>
    rw [zeros, List.replicate_succ, toPoly_cons, map_zero, zero_add]
    exact mul_eq_zero_of_right _ ih

theorem toPoly_append_zeros (l : List K) (n : ℕ) : toPoly (l ++ zeros n) = toPoly l := by
  induction l with
  | nil => simpa using toPoly_zeros n
  | cons c cs ih => simp [ih]

theorem toPoly_take_coeff (l : List K) (n i : ℕ) :
    (toPoly (l.take n)).coeff i = if i < n then (toPoly l).coeff i else 0 := by
  rw [toPoly_coeff, toPoly_coeff, List.getD_eq_getElem?_getD, List.getD_eq_getElem?_getD,
    List.getElem?_take]
  split <;> rfl

theorem toPoly_take {l : List K} {n : ℕ} (hl : l.length ≤ n + 1) (hz : l.getD n 0 = 0) :
    toPoly (l.take n) = toPoly l := by
  ext i
  rw [toPoly_take_coeff]
  split
  · rfl
  · rw [toPoly_coeff]
    rcases Nat.lt_or_ge n i with h | h
    · rw [List.getD_eq_default _ _ (by omega)]
    · rw [show i = n by omega, hz]

theorem toPoly_inj {a b : List K} (hl : a.length = b.length) (h : toPoly a = toPoly b) :
    a = b := by
  apply List.ext_getElem hl
  intro i h1 h2
  rw [← List.getD_eq_getElem a 0 h1, ← List.getD_eq_getElem b 0 h2, ← toPoly_coeff, ← toPoly_coeff,
    h]

end toPoly

/-! ### the basis polynomials -/

section basis
variable {K : Type} [CommRing K]

noncomputable def chebP (K : Type) [CommRing K] (kindU : Bool) (n : ℕ) : Polynomial K :=
  if kindU then Polynomial.Chebyshev.U K n else Polynomial.Chebyshev.T K n

theorem chebP_false (n : ℕ) : chebP K false n = Polynomial.Chebyshev.T K n := rfl

theorem chebP_true (n : ℕ) : chebP K true n = Polynomial.Chebyshev.U K n := rfl

theorem chebP_add_two (kindU : Bool) (n : ℕ) :
    chebP K kindU (n + 2) = 2 * Polynomial.X * chebP K kindU (n + 1) - chebP K kindU n := by
  cases kindU
  · simp only [chebP_false]
    push_cast
    exact Polynomial.Chebyshev.T_add_two K n
  · simp only [chebP_true]
    push_cast
    exact Polynomial.Chebyshev.U_add_two K n

theorem chebPair_spec (kindU : Bool) (n : ℕ) :
    toPoly (chebPair kindU n : List K × List K).1 = chebP K kindU n ∧
    toPoly (chebPair kindU n : List K × List K).2 = chebP K kindU (n + 1) := by
  induction n with
  | zero =>
    cases kindU
    · simp [chebPair, chebP]
    · simp [chebPair, chebP, C_two, mul_comm]
  | succ n ih =>
    refine ⟨ih.2, ?_⟩
    simp only [chebPair]
    rw [toPoly_subL, toPoly_mul2x, ih.1, ih.2, chebP_add_two]

theorem length_subL (a b : List K) : (subL a b).length = max a.length b.length := by
  simp [subL, length_addL]

theorem length_mul2x (l : List K) : (mul2x l).length = l.length + 1 := by simp [mul2x]

theorem chebPair_length (kindU : Bool) (n : ℕ) :
    (chebPair kindU n : List K × List K).1.length = n + 1 ∧
    (chebPair kindU n : List K × List K).2.length = n + 2 := by
  induction n with
  | zero => cases kindU <;> simp [chebPair]
  | succ n ih =>
    refine ⟨ih.2, ?_⟩
    simp only [chebPair]
    rw [length_subL, length_mul2x, ih.1, ih.2]
    omega

theorem toPoly_chebBasis (kindU : Bool) (n : ℕ) :
    toPoly (chebBasis kindU n : List K) = chebP K kindU n := (chebPair_spec kindU n).1

theorem chebBasis_T (n : ℕ) :
    toPoly (chebBasis false n : List K) = Polynomial.Chebyshev.T K n := toPoly_chebBasis false n

theorem chebBasis_length (kindU : Bool) (n : ℕ) :
    (chebBasis kindU n : List K).length = n + 1 := (chebPair_length kindU n).1

theorem getLastD_eq_getD {α : Type} (l : List α) (n : ℕ) (d e : α) (h : l.length = n + 1) :
    l.getLastD d = l.getD n e := by
  have hn : n < l.length := by omega
  rw [List.getLastD_eq_getLast?, List.getLast?_eq_getElem?, h, Nat.add_sub_cancel,
    List.getD_eq_getElem?_getD, List.getElem?_eq_getElem hn]
  rfl

def chebLead (K : Type) [CommRing K] (kindU : Bool) (n : ℕ) : K :=
  if kindU then 2 ^ n else 2 ^ (n - 1)

theorem chebP_coeff_self [IsDomain K] [NeZero (2 : K)] (kindU : Bool) (n : ℕ) :
    (chebP K kindU n).coeff n = chebLead K kindU n := by
  cases kindU
  · have h := Polynomial.Chebyshev.leadingCoeff_T K (n : ℤ)
    rwa [Polynomial.leadingCoeff, Polynomial.Chebyshev.natDegree_T, Int.natAbs_natCast] at h
  · have h := Polynomial.Chebyshev.leadingCoeff_U_natCast K n
    rwa [Polynomial.leadingCoeff, Polynomial.Chebyshev.natDegree_U_natCast] at h

theorem chebLead_ne_zero [IsDomain K] [NeZero (2 : K)] (kindU : Bool) (n : ℕ) :
    chebLead K kindU n ≠ 0 := by
  unfold chebLead
  split <;> exact pow_ne_zero _ two_ne_zero

theorem chebBasis_getLastD [IsDomain K] [NeZero (2 : K)] (kindU : Bool) (n : ℕ) (d : K) :
    (chebBasis kindU n : List K).getLastD d = chebLead K kindU n := by
  rw [getLastD_eq_getD _ n d 0 (chebBasis_length kindU n), ← toPoly_coeff, toPoly_chebBasis,
    chebP_coeff_self]

end basis

/-! ### sums of Chebyshev polynomials -/

section cheb2poly
variable {K : Type} [CommRing K]

/-- `sum_i cs[i] * P_{k+i}` -/
noncomputable def chebSumFrom (kindU : Bool) : List K → ℕ → Polynomial K
  | [], _ => 0
  | c :: cs, k => Polynomial.C c * chebP K kindU k + chebSumFrom kindU cs (k + 1)

/-- the polynomial with Chebyshev coefficients `cs` -/
noncomputable def chebSum (kindU : Bool) (cs : List K) : Polynomial K := chebSumFrom kindU cs 0

@[simp] theorem chebSumFrom_nil (kindU : Bool) (k : ℕ) :
    chebSumFrom kindU ([] : List K) k = 0 := rfl
@[simp] theorem chebSumFrom_cons (kindU : Bool) (c : K) (cs : List K) (k : ℕ) :
    chebSumFrom kindU (c :: cs) k =
      Polynomial.C c * chebP K kindU k + chebSumFrom kindU cs (k + 1) := rfl

theorem sum_range_length_cons {M α : Type} [AddCommMonoid M] (d a : α) (as : List α)
    (f : ℕ → α → M) :
    ∑ i ∈ Finset.range (a :: as).length, f i ((a :: as).getD i d) =
      f 0 a + ∑ i ∈ Finset.range as.length, f (i + 1) (as.getD i d) := by
  rw [List.length_cons, Finset.sum_range_succ', add_comm]
  rfl

theorem chebSumFrom_eq_sum (kindU : Bool) (cs : List K) (k : ℕ) :
    chebSumFrom kindU cs k =
      ∑ i ∈ Finset.range cs.length, Polynomial.C (cs.getD i 0) * chebP K kindU (k + i) := by
  induction cs generalizing k with
  | nil => rfl
  | cons c cs ih =>
    rw [chebSumFrom_cons, ih,
      sum_range_length_cons 0 c cs (fun i x => Polynomial.C x * chebP K kindU (k + i))]
    simp only [Nat.add_zero, Nat.add_right_comm k 1]
    rfl

theorem chebSum_eq_sum (kindU : Bool) (cs : List K) :
    chebSum kindU cs =
      ∑ i ∈ Finset.range cs.length, Polynomial.C (cs.getD i 0) * chebP K kindU i := by
  unfold chebSum
  simpa using chebSumFrom_eq_sum kindU cs 0

theorem foldr_range_eq_sum {M : Type} [AddCommMonoid M] (f : ℕ → M) (n : ℕ) :
    (List.range n).foldr (fun k acc => f k + acc) 0 = ∑ i ∈ Finset.range n, f i := by
  rw [← List.toFinset_range, List.sum_toFinset _ List.nodup_range, List.sum_eq_foldr,
    List.foldr_map]

theorem chebSumFrom_append (kindU : Bool) (a b : List K) (k : ℕ) :
    chebSumFrom kindU (a ++ b) k = chebSumFrom kindU a k + chebSumFrom kindU b (k + a.length) := by
  induction a generalizing k with
  | nil => simp
  | cons x xs ih =>
    simp only [List.cons_append, chebSumFrom_cons, ih, List.length_cons]
    rw [show k + 1 + xs.length = k + (xs.length + 1) by ring]
    ring

theorem chebSum_concat (kindU : Bool) (a : List K) (x : K) :
    chebSum kindU (a ++ [x]) = chebSum kindU a + Polynomial.C x * chebP K kindU a.length := by
  rw [chebSum, chebSumFrom_append, chebSumFrom_cons, chebSumFrom_nil, add_zero, Nat.zero_add]
  rfl

theorem chebSumFrom_map_mul (kindU : Bool) (s : K) (cs : List K) (k : ℕ) :
    chebSumFrom kindU (cs.map (s * ·)) k = Polynomial.C s * chebSumFrom kindU cs k := by
  induction cs generalizing k with
  | nil => simp
  | cons c cs ih =>
    simp only [List.map_cons, chebSumFrom_cons, ih, map_mul]
    ring

/-! ### `cheb2poly` -/

theorem toPoly_cheb2polyAux (kindU : Bool) (cs : List K) (k : ℕ) :
    toPoly (cheb2polyAux kindU cs k) = chebSumFrom kindU cs k := by
  induction cs generalizing k with
  | nil => simp [cheb2polyAux]
  | cons c cs ih =>
    simp only [cheb2polyAux, toPoly_addL, toPoly_map_mul, toPoly_chebBasis, ih, chebSumFrom_cons]

theorem length_cheb2polyAux (kindU : Bool) (c : K) (cs : List K) (k : ℕ) :
    (cheb2polyAux kindU (c :: cs) k).length = k + cs.length + 1 := by
  induction cs generalizing c k with
  | nil => rw [cheb2polyAux, cheb2polyAux, length_addL, List.length_map, chebBasis_length]; rfl
  | cons c' cs ih =>
    rw [cheb2polyAux, length_addL, ih, List.length_map, chebBasis_length, List.length_cons]
    omega

/-- the sum is already as long as the input, so cutting and padding to that length do nothing -/
theorem cheb2poly_eq_aux (kindU : Bool) (cs : List K) :
    cheb2poly kindU cs = cheb2polyAux kindU cs 0 := by
  cases cs with
  | nil => rfl
  | cons c cs =>
    have hl : (cheb2polyAux kindU (c :: cs) 0).length = (c :: cs).length := by
      rw [length_cheb2polyAux, Nat.zero_add, List.length_cons]
    rw [cheb2poly, padTo, List.take_of_length_le hl.le, hl, Nat.sub_self]
    exact List.append_nil _

theorem toPoly_cheb2poly (kindU : Bool) (cs : List K) :
    toPoly (cheb2poly kindU cs) = chebSum kindU cs := by
  rw [cheb2poly_eq_aux, toPoly_cheb2polyAux]; rfl

theorem cheb2poly_length (kindU : Bool) (cs : List K) :
    (cheb2poly kindU cs).length = cs.length := by
  rw [cheb2poly, padTo, List.length_append, length_zeros, List.length_take]
  omega

theorem cheb2poly_map_mul (kindU : Bool) (s : K) (c : List K) :
    cheb2poly kindU (c.map (s * ·)) = (cheb2poly kindU c).map (s * ·) := by
  apply toPoly_inj
  · simp [cheb2poly_length]
  · rw [toPoly_cheb2poly, toPoly_map_mul, toPoly_cheb2poly]
    exact chebSumFrom_map_mul kindU s c 0

theorem chebSum_coeff_of_le (kindU : Bool) (cs : List K) (m : ℕ) (h : cs.length ≤ m) :
    (chebSum kindU cs).coeff m = 0 := by
  rw [← toPoly_cheb2poly, toPoly_coeff]
  exact List.getD_eq_default _ _ (by rwa [cheb2poly_length])

end cheb2poly

/-! ### `poly2cheb`, the inverse of `cheb2poly` -/

section poly2cheb
variable {K : Type} [Field K] [NeZero (2 : K)]

theorem chebSum_concat_coeff (kindU : Bool) (a : List K) (x : K) :
    (chebSum kindU (a ++ [x])).coeff a.length = x * chebLead K kindU a.length := by
  rw [chebSum_concat, Polynomial.coeff_add, chebSum_coeff_of_le kindU a _ le_rfl, zero_add,
    Polynomial.coeff_C_mul, chebP_coeff_self]

theorem chebSum_inj (kindU : Bool) {a b : List K} (hl : a.length = b.length)
    (h : chebSum kindU a = chebSum kindU b) : a = b := by
  induction a using List.reverseRecOn generalizing b with
  | nil => exact (List.length_eq_zero_iff.mp hl.symm).symm
  | append_singleton a x ih =>
    rcases List.eq_nil_or_concat b with rfl | ⟨b, y, rfl⟩
    · simp at hl
    · rw [List.concat_eq_append] at hl h ⊢
      have hl' : a.length = b.length := by simpa using hl
      -- `P_n` has exact degree `n`, so the top coefficient determines the last entry
      have hc : x * chebLead K kindU a.length = y * chebLead K kindU a.length := by
        rw [← chebSum_concat_coeff, h, hl', chebSum_concat_coeff]
      obtain rfl : x = y := mul_right_cancel₀ (chebLead_ne_zero kindU _) hc
      rw [chebSum_concat, chebSum_concat, hl'] at h
      rw [ih hl' (add_right_cancel h)]

/-- one elimination step: subtracting `c P_n` with `c · lead(P_n) = ps[n]` cancels the coefficient
    of `x^n`, so cutting the list there loses nothing -/
theorem poly2cheb_step (kindU : Bool) {n : ℕ} {ps : List K} (hn : ps.length = n + 1) {c : K}
    (hc : c * chebLead K kindU n = ps.getD n 0) :
    ((subL ps ((chebBasis kindU n).map (c * ·))).take n).length = n ∧
      toPoly ((subL ps ((chebBasis kindU n).map (c * ·))).take n) =
        toPoly ps - Polynomial.C c * chebP K kindU n := by
  have hlen : (subL ps ((chebBasis kindU n).map (c * ·))).length = n + 1 := by
    rw [length_subL, List.length_map, chebBasis_length, hn, max_self]
  have hP : toPoly (subL ps ((chebBasis kindU n).map (c * ·))) =
      toPoly ps - Polynomial.C c * chebP K kindU n := by
    rw [toPoly_subL, toPoly_map_mul, toPoly_chebBasis]
  refine ⟨by rw [List.length_take, hlen]; exact Nat.min_eq_left (Nat.le_succ n), ?_⟩
  rw [toPoly_take hlen.le, hP]
  rw [← toPoly_coeff, hP, Polynomial.coeff_sub, Polynomial.coeff_C_mul, chebP_coeff_self,
    toPoly_coeff, hc, sub_self]

theorem poly2chebAux_spec (kindU : Bool) (n : ℕ) (ps acc : List K) (hn : ps.length = n) :
    ∃ cs : List K, poly2chebAux kindU n ps acc = cs ++ acc ∧ cs.length = n ∧
      chebSum kindU cs = toPoly ps := by
  induction n generalizing ps acc with
  | zero =>
    cases List.length_eq_zero_iff.mp hn
    exact ⟨[], rfl, rfl, rfl⟩
  | succ n ih =>
    obtain ⟨hl, hP⟩ := poly2cheb_step kindU hn
      (div_mul_cancel₀ (ps.getD n 0) (chebLead_ne_zero kindU n))
    obtain ⟨cs', h1, h2, h3⟩ := ih _ (ps.getD n 0 / chebLead K kindU n :: acc) hl
    refine ⟨cs' ++ [ps.getD n 0 / chebLead K kindU n], ?_, by rw [List.length_append, h2]; rfl, ?_⟩
    · rw [poly2chebAux, chebBasis_getLastD, h1, List.append_assoc, List.singleton_append]
    · rw [chebSum_concat, h3, hP, h2, sub_add_cancel]

theorem poly2cheb_spec (kindU : Bool) (ps : List K) :
    chebSum kindU (poly2cheb kindU ps) = toPoly ps := by
  obtain ⟨cs, h1, _, h3⟩ := poly2chebAux_spec kindU ps.length ps [] rfl
  rw [poly2cheb, h1, List.append_nil, h3]

theorem poly2cheb_length (kindU : Bool) (ps : List K) :
    (poly2cheb kindU ps).length = ps.length := by
  obtain ⟨cs, h1, h2, _⟩ := poly2chebAux_spec kindU ps.length ps [] rfl
  rw [poly2cheb, h1, List.append_nil, h2]

theorem poly2cheb_cheb2poly (kindU : Bool) (cs : List K) :
    poly2cheb kindU (cheb2poly kindU cs) = cs := by
  apply chebSum_inj kindU
  · rw [poly2cheb_length, cheb2poly_length]
  · rw [poly2cheb_spec, toPoly_cheb2poly]

end poly2cheb

/-! ### the substitution `x = (w + 1/w)/2` -/

section cosW
variable {K : Type} [Field K] [NeZero (2 : K)]

/-- `(w + 1/w)/2`, which is `cos θ` at `w = e^{iθ}` -/
noncomputable def cosW : K[T;T⁻¹] := C (1 / 2) * (T 1 + T (-1))

theorem two_mul_C_half : (2 : K[T;T⁻¹]) * C (1 / 2 : K) = 1 := by
  rw [← map_ofNat (C : K →+* K[T;T⁻¹]) 2, ← map_mul]
  rw [mul_one_div_cancel (two_ne_zero), map_one]

theorem pow_pair_mul {A : Type} [CommRing A] (t : ℤ → A) (ht : ∀ a b, t (a + b) = t a * t b)
    (m : ℤ) :
    (t 1 + t (-1)) * (t m + t (-m)) =
      (t (m + 1) + t (-(m + 1))) + (t (m - 1) + t (-(m - 1))) := by
  rw [ht m 1, sub_eq_add_neg, ht m (-1), neg_add, ht (-m) (-1), neg_add, neg_neg, ht (-m) 1]
  ring

/-- the Chebyshev recurrence for the halved sequence `h aₖ` -/
theorem half_recurrence {A : Type} [CommRing A] {h x a0 a1 a2 : A} (h2 : 2 * h = 1)
    (hx : x * a1 = a2 + a0) : 2 * (h * x) * (h * a1) - h * a0 = h * a2 := by
  linear_combination (2 * h * h) * hx + (h * (a2 + a0)) * h2

theorem aeval_cosW_T (k : ℕ) :
    Polynomial.aeval (cosW : K[T;T⁻¹]) (Polynomial.Chebyshev.T K k) =
      C (1 / 2) * (T k + T (-(k : ℤ))) := by
  induction k using Nat.twoStepInduction with
  | zero =>
    rw [Nat.cast_zero, Polynomial.Chebyshev.T_zero, map_one, neg_zero, T_zero, ← two_mul, mul_one,
      mul_comm, two_mul_C_half]
  | one => rw [Nat.cast_one, Polynomial.Chebyshev.T_one, Polynomial.aeval_X, cosW]
  | more n ih0 ih1 =>
    have h := pow_pair_mul (T : ℤ → K[T;T⁻¹]) T_add ((n : ℤ) + 1)
    rw [add_sub_cancel_right, add_assoc (n : ℤ), one_add_one_eq_two] at h
    push_cast at ih1 ⊢
    rw [Polynomial.Chebyshev.T_add_two, Polynomial.aeval_sub, Polynomial.aeval_mul,
      Polynomial.aeval_mul, Polynomial.aeval_X, ih0, ih1, map_ofNat, cosW]
    exact half_recurrence two_mul_C_half h

end cosW

/-! ### parity splitting of coefficient lists -/

section parity

theorem evens_cons {α : Type} (x : α) (l : List α) : evens (x :: l) = x :: odds l := by
  cases l <;> rfl

theorem odds_cons {α : Type} (x : α) (l : List α) : odds (x :: l) = evens l := rfl

theorem evens_odds_map {α β : Type} (f : α → β) (l : List α) :
    evens (l.map f) = (evens l).map f ∧ odds (l.map f) = (odds l).map f := by
  induction l with
  | nil => exact ⟨rfl, rfl⟩
  | cons x xs ih =>
    rw [List.map_cons, evens_cons, evens_cons, odds_cons, odds_cons, ih.1, ih.2]
    exact ⟨rfl, rfl⟩

theorem evens_odds_getD {α : Type} (l : List α) (d : α) (j : ℕ) :
    (evens l).getD j d = l.getD (2 * j) d ∧ (odds l).getD j d = l.getD (2 * j + 1) d := by
  induction l generalizing j with
  | nil => simp [evens, odds]
  | cons x xs ih =>
    rw [evens_cons, odds_cons]
    refine ⟨?_, by rw [(ih j).1, List.getD_cons_succ]⟩
    cases j with
    | zero => simp
    | succ j => rw [List.getD_cons_succ, (ih j).2, show 2 * (j + 1) = (2 * j + 1) + 1 by ring,
        List.getD_cons_succ]

theorem evens_odds_length {α : Type} (l : List α) :
    (evens l).length = (l.length + 1) / 2 ∧ (odds l).length = l.length / 2 := by
  induction l with
  | nil => simp [evens, odds]
  | cons x xs ih =>
    rw [evens_cons, odds_cons, List.length_cons, List.length_cons, ih.1, ih.2]
    exact ⟨(Nat.add_div_right _ two_pos).symm, rfl⟩

end parity

/-! ### `poly2laurent` -/

section poly2laurent

noncomputable def symmetrize {R : Type} [CommRing R] (f : R[T;T⁻¹]) : R[T;T⁻¹] := invert f + f

/-- the vector `poly2laurent` builds from the odd Chebyshev coefficients -/
theorem denL_sym_odd {R : Type} [CommRing R] (h : List R) :
    denL (h.reverse ++ h) (-((h.reverse ++ h).length : ℤ) + 1) = symmetrize (denL h 1) := by
  rw [symmetrize, ← denL_reverse_append h h (j := 1) rfl, List.length_append, List.length_reverse]
  congr 1; push_cast; ring

/-- … and from the even ones, where the centre `l0` counts twice -/
theorem denL_sym_even {R : Type} [CommRing R] (l0 : R) (rest : List R) :
    denL (rest.reverse ++ [2 * l0] ++ rest)
        (-((rest.reverse ++ [2 * l0] ++ rest).length : ℤ) + 1) =
      symmetrize (denL (l0 :: rest) 0) := by
  rw [symmetrize, ← denL_reverse_centre, two_mul, List.append_assoc, List.singleton_append]
  congr 1
  simp only [List.length_append, List.length_reverse, List.length_cons]; push_cast; ring

/-- the entries at even positions land on the powers `±k, ±(k+2), …`, those at odd positions on
    `±(k+1), ±(k+3), …`, each halved -/
theorem aeval_chebSumFrom (cs : List ℚ) (k : ℕ) :
    Polynomial.aeval (cosW : ℚ[T;T⁻¹]) (chebSumFrom false cs k) =
      symmetrize (denL ((evens cs).map (· / 2)) k) +
        symmetrize (denL ((odds cs).map (· / 2)) (k + 1)) := by
  induction cs generalizing k with
  | nil => simp [symmetrize, evens, odds]
  | cons c cs ih =>
    have hc : (C (c / 2) : ℚ[T;T⁻¹]) = C c * C (1 / 2) := by
      rw [← map_mul]; congr 1; ring
    rw [chebSumFrom_cons, Polynomial.aeval_add, Polynomial.aeval_mul, ih, chebP_false, aeval_cosW_T,
      Polynomial.aeval_C, ← C_eq_algebraMap, evens_cons, odds_cons, List.map_cons, denL_cons,
      Nat.cast_succ, add_assoc (k : ℤ) 1 1, one_add_one_eq_two]
    simp only [symmetrize, map_add, map_mul, invert_C, invert_T, hc]
    ring

theorem aeval_cosW_toPoly (ps : List ℚ) :
    Polynomial.aeval (cosW : ℚ[T;T⁻¹]) (toPoly ps) =
      symmetrize (denL ((evens (poly2cheb false ps)).map (· / 2)) 0) +
      symmetrize (denL ((odds (poly2cheb false ps)).map (· / 2)) 1) := by
  rw [← poly2cheb_spec false ps, chebSum, aeval_chebSumFrom, Nat.cast_zero, zero_add]

theorem qabs_zero : qabs 0 = 0 := by decide +kernel

theorem maxAbs_eq_zero {l : List ℚ} (h : ∀ c ∈ l, c = 0) : maxAbs l = 0 := by
  unfold maxAbs
  induction l with
  | nil => rfl
  | cons x xs ih =>
    obtain rfl : x = 0 := h x List.mem_cons_self
    rw [List.foldl_cons, qabs_zero, if_neg (lt_irrefl _)]
    exact ih fun c hc => h c (List.mem_cons_of_mem _ hc)

theorem poly2laurent_den_kept (thr : ℚ) (ps l : List ℚ) (h : poly2laurent thr ps = .ok l) :
    denL l (-(l.length : ℤ) + 1) =
      if thr < maxAbs (odds (poly2cheb false ps))
      then symmetrize (denL ((odds (poly2cheb false ps)).map (· / 2)) 1)
      else symmetrize (denL ((evens (poly2cheb false ps)).map (· / 2)) 0) := by
  unfold poly2laurent at h
  simp only [gt_iff_lt] at h
  by_cases hO : thr < maxAbs (odds (poly2cheb false ps))
  · by_cases hE : thr < maxAbs (evens (poly2cheb false ps))
    · simp [hO, hE] at h
    · simp only [hO, hE, decide_true, decide_false, Bool.false_and, Bool.false_eq_true,
        if_false, if_true] at h
      cases h
      rw [if_pos hO]
      exact denL_sym_odd _
  · simp only [hO, decide_false, Bool.and_false, Bool.false_eq_true, if_false] at h
    rw [if_neg hO]
    cases hl : (evens (poly2cheb false ps)).map (· / 2) with
    | nil =>
      rw [hl] at h
      cases h
      simp [symmetrize]
    | cons l0 rest =>
      rw [hl] at h
      cases h
      exact denL_sym_even l0 rest

theorem den_poly2laurent_of_dropped (thr : ℚ) (ps l : List ℚ) (h : poly2laurent thr ps = .ok l)
    (hdrop : ∀ c ∈ (if thr < maxAbs (odds (poly2cheb false ps))
      then evens (poly2cheb false ps) else odds (poly2cheb false ps)), c = 0) :
    denL l (-(l.length : ℤ) + 1) = Polynomial.aeval (cosW : ℚ[T;T⁻¹]) (toPoly ps) := by
  rw [poly2laurent_den_kept thr ps l h, aeval_cosW_toPoly]
  have hz : ∀ (m : List ℚ) (d : ℤ), (∀ c ∈ m, c = 0) →
      symmetrize (denL (m.map (· / 2)) d) = 0 := by
    intro m d hm
    rw [symmetrize, denL_eq_zero_of_forall]
    · simp
    · intro x hx
      obtain ⟨y, hy, rfl⟩ := List.mem_map.mp hx
      rw [hm y hy]; simp
  split
  · rename_i hO
    rw [if_pos hO] at hdrop
    rw [hz _ 0 hdrop, zero_add]
  · rename_i hO
    rw [if_neg hO] at hdrop
    rw [hz _ 1 hdrop, add_zero]

theorem den_poly2laurent (thr : ℚ) (ps l : List ℚ) (h : poly2laurent thr ps = .ok l)
    (hpar : (∀ c ∈ odds (poly2cheb false ps), c = 0) ∨
      ((∀ c ∈ evens (poly2cheb false ps), c = 0) ∧ thr < maxAbs (odds (poly2cheb false ps))))
    (hthr : 0 ≤ thr) :
    denL l (-(l.length : ℤ) + 1) = Polynomial.aeval (cosW : ℚ[T;T⁻¹]) (toPoly ps) := by
  apply den_poly2laurent_of_dropped thr ps l h
  rcases hpar with ho | ⟨he, hO⟩
  · rw [if_neg (by rw [maxAbs_eq_zero ho]; exact not_lt.mpr hthr)]
    exact ho
  · rw [if_pos hO]; exact he

theorem poly2laurent_refuses (thr : ℚ) (ps : List ℚ)
    (h1 : maxAbs (evens (poly2cheb false ps)) > thr)
    (h2 : maxAbs (odds (poly2cheb false ps)) > thr) :
    poly2laurent thr ps = .error .parity := by
  simp [poly2laurent, h1, h2]

end poly2laurent

/-! ### NumPy's trailing-zero trimming in front of `poly2laurent` -/

theorem toPoly_dropTrailing (l : List ℚ) :
    toPoly (l.reverse.dropWhile (· == 0)).reverse = toPoly l := by
  induction l using List.reverseRecOn with
  | nil => rfl
  | append_singleton l x ih =>
    rw [List.reverse_append, List.reverse_singleton, List.singleton_append, List.dropWhile_cons]
    split
    · rename_i hx
      rw [ih, beq_iff_eq.mp hx]
      exact (toPoly_append_zeros l 1).symm
    · rw [List.reverse_cons, List.reverse_reverse]

theorem toPoly_trimZeros (l : List ℚ) : toPoly (trimZeros l) = toPoly l := by
  have h := toPoly_dropTrailing l
  unfold trimZeros
  split
  · -- everything was zero, and so is `l.take 1`
    rename_i heq
    rw [heq, toPoly_nil] at h
    ext i
    rw [toPoly_take_coeff, ← h, Polynomial.coeff_zero, ite_self]
  · exact h

/-! ### `polyToLaurentForm`

  `go` walks the coefficients with the running power `pw = ((w+1/w)/2)^k`, stored on the powers
  `-k .. k`, and adds `c · pw` to the accumulator for every nonzero `c`.  `LP.add` refuses summands
  of different parity, so everything turns on the parity class `-(k+i) mod 2` that the coefficient
  of index `i` brings in. -/

section polyToLaurentForm

theorem den_cosLP : den (LP.mk' [(1 / 2 : ℚ), 1 / 2] (-1)) = cosW := by
  rw [den_mk', denL_cons, denL_cons, denL_nil, add_zero, cosW, mul_add, add_comm,
    show (-1 : ℤ) + 2 = 1 from rfl]

theorem pw_zero : (LP.mk' [(1 : ℚ)] 0).On (-((0 : ℕ) : ℤ)) (0 : ℕ) :=
  ⟨List.cons_ne_nil _ _, rfl, rfl, rfl⟩

theorem pw_next {k : ℕ} {pw : LP ℚ} (h : pw.On (-(k : ℤ)) k) :
    (pw.mul (LP.mk' [(1 / 2 : ℚ), 1 / 2] (-1))).On (-((k + 1 : ℕ) : ℤ)) ((k + 1 : ℕ) : ℤ) := by
  have := h.mul (q := LP.mk' [(1 / 2 : ℚ), 1 / 2] (-1)) (c := -1) (d := 1)
    ⟨List.cons_ne_nil _ _, rfl, rfl, rfl⟩
  rwa [← neg_add, ← Nat.cast_succ] at this

/-- the parity class of `c · pw` for the coefficient `i` places after the `k`-th: `pw` then starts
    at `w^(-(k+i))` -/
abbrev cls (k i : ℕ) : ℤ := (-((k + i : ℕ) : ℤ)) % 2

theorem cls_succ (k i : ℕ) : cls k (i + 1) = cls (k + 1) i := by
  rw [cls, cls, Nat.add_right_comm]; rfl

theorem go_ok (cs : List ℚ) (k : ℕ) (pw acc p : LP ℚ) (hpw : pw.On (-(k : ℤ)) k) (hacc : acc.WF)
    (h : polyToLaurentForm.go (1 / 2) cs k pw acc = .ok p) :
    (den p = den acc + den pw * Polynomial.aeval (cosW : ℚ[T;T⁻¹]) (toPoly cs) ∧ p.WF) ∧
      (acc.iszero = false → p.parity = acc.parity) ∧
      ∀ i, cs.getD i 0 ≠ 0 → p.parity = cls k i := by
  induction cs generalizing k pw acc with
  | nil =>
    simp only [polyToLaurentForm.go] at h
    cases h
    exact ⟨⟨by simp, hacc⟩, fun _ => rfl, fun i hi => absurd rfl hi⟩
  | cons c rest ih =>
    simp only [polyToLaurentForm.go] at h
    have hnext := den_mul pw (LP.mk' [(1 / 2 : ℚ), 1 / 2] (-1)) hpw.wf (WF_mk' _ _)
    rw [den_cosLP] at hnext
    have hA : Polynomial.aeval (cosW : ℚ[T;T⁻¹]) (toPoly (c :: rest)) =
        C c + cosW * Polynomial.aeval (cosW : ℚ[T;T⁻¹]) (toPoly rest) := by
      rw [toPoly_cons, Polynomial.aeval_add, Polynomial.aeval_mul, Polynomial.aeval_C,
        Polynomial.aeval_X, ← C_eq_algebraMap]
    split at h
    · rename_i hc
      obtain ⟨⟨h1, h2⟩, h3, h4⟩ := ih (k + 1) _ _ (pw_next hpw) hacc h
      refine ⟨⟨?_, h2⟩, h3, fun i hi => ?_⟩
      · rw [h1, hnext.1, hA, hc, map_zero]; ring
      · rcases i with _ | i
        · exact absurd hc hi
        · exact cls_succ k i ▸ h4 i hi
    · have hs := hpw.smul c
      rcases add_nonzero_cases hacc hs.wf hs.nz with ⟨r, hr, r1, r2, r3, r4⟩ | ⟨he, -⟩
      · rw [hr] at h
        obtain ⟨⟨h1, h2⟩, h3, h4⟩ := ih (k + 1) _ r (pw_next hpw) r1 h
        have pp : p.parity = -(k : ℤ) % 2 := (h3 r2).trans (r3.trans hs.parity)
        refine ⟨⟨?_, h2⟩, fun h0 => by rw [pp, r4 h0, hs.parity], fun i hi => ?_⟩
        · rw [h1, (add_ok hacc hs.wf hr).1, (den_smul c pw hpw.wf).1, hnext.1, hA]; ring
        · rcases i with _ | i
          · exact pp
          · exact cls_succ k i ▸ h4 i hi
      · rw [he] at h; cases h

theorem go_returns (cs : List ℚ) (k : ℕ) (pw acc : LP ℚ) (hpw : pw.On (-(k : ℤ)) k)
    (hacc : acc.WF) (π : ℤ) (hπ : acc.iszero = true ∨ acc.parity = π)
    (hcs : ∀ i, cs.getD i 0 ≠ 0 → cls k i = π) :
    ∃ p, polyToLaurentForm.go (1 / 2) cs k pw acc = .ok p := by
  induction cs generalizing k pw acc with
  | nil => exact ⟨acc, by simp only [polyToLaurentForm.go]⟩
  | cons c rest ih =>
    simp only [polyToLaurentForm.go]
    have hshift : ∀ i, rest.getD i 0 ≠ 0 → cls (k + 1) i = π := fun i hi =>
      cls_succ k i ▸ hcs (i + 1) hi
    split
    · exact ih (k + 1) _ _ (pw_next hpw) hacc hπ hshift
    · rename_i hc
      have hs := hpw.smul c
      have hk : (LP.smul c pw).parity = π := hs.parity.trans (hcs 0 hc)
      rcases add_nonzero_cases hacc hs.wf hs.nz with ⟨r, hr, r1, -, r3, -⟩ | ⟨-, h0, hne⟩
      · rw [hr]
        exact ih (k + 1) _ r (pw_next hpw) r1 (Or.inr (r3.trans hk)) hshift
      · rw [h0] at hπ
        exact absurd (hπ.resolve_left Bool.false_ne_true |>.trans hk.symm) hne

theorem go_error (cs : List ℚ) (k : ℕ) (pw acc : LP ℚ) (hpw : pw.On (-(k : ℤ)) k) (hacc : acc.WF)
    (e : Err) (h : polyToLaurentForm.go (1 / 2) cs k pw acc = .error e) : e = .parity := by
  induction cs generalizing k pw acc with
  | nil => simp only [polyToLaurentForm.go] at h; cases h
  | cons c rest ih =>
    simp only [polyToLaurentForm.go] at h
    split at h
    · exact ih (k + 1) _ _ (pw_next hpw) hacc h
    · have hs := hpw.smul c
      rcases add_nonzero_cases hacc hs.wf hs.nz with ⟨r, hr, r1, -⟩ | ⟨he, -⟩
      · rw [hr] at h
        exact ih (k + 1) _ r (pw_next hpw) r1 h
      · rw [he] at h; cases h; rfl

theorem den_polyToLaurentForm (ps : List ℚ) (p : LP ℚ) (h : polyToLaurentForm ps = .ok p) :
    den p = Polynomial.aeval (cosW : ℚ[T;T⁻¹]) (toPoly ps) ∧ p.WF := by
  have := (go_ok ps 0 _ _ p pw_zero den_zero.2 h).1
  rw [den_zero.1, den_mk'] at this
  simpa using this

theorem polyToLaurentForm_returns (ps : List ℚ) (π : ℕ)
    (h : ∀ i, ps.getD i 0 ≠ 0 → i % 2 = π) : ∃ p, polyToLaurentForm ps = .ok p := by
  apply go_returns ps 0 _ _ pw_zero den_zero.2 ((-(π : ℤ)) % 2) (Or.inl rfl)
  intro i hi
  have := h i hi
  simp only [cls]
  omega

end polyToLaurentForm

end QSP
