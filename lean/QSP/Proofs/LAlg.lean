/-
  Definitions and lemmas for the property theorems of `QSP/Properties/C08.lean`: the pair model
  `LA R` of `pyqsp/LPoly.py :: class LAlg` computes exact arithmetic of 2×2 matrices
  `[[A(w), i B(w)], [i B(1/w), A(1/w)]]` over Laurent polynomials.  The matrix is the image of the pair
  `DS.pden g` (QSP/Proofs/P2.lean) under `DS.mat ι`, multiplicative when `ι² = -1`.
-/
import QSP.Proofs.P2
import QSP.Proofs.Mat2
open LaurentPolynomial
namespace QSP
variable {R : Type} [CommRing R]

/-! ### definitions -/

/-- the matrix `[[A(w), ι B(w)], [ι B(1/w), A(1/w)]]` denoted by `A + B·iX` -/
noncomputable def toMat (ι : R) (g : LA R) : Matrix (Fin 2) (Fin 2) R[T;T⁻¹] :=
  !![den g.I, C ι * den g.X; C ι * invert (den g.X), invert (den g.I)]

noncomputable def diagMat (f : R[T;T⁻¹]) : Matrix (Fin 2) (Fin 2) R[T;T⁻¹] :=
  !![f, 0; 0, invert f]

noncomputable def rotMat (ι : R) (cs : R × R) : Matrix (Fin 2) (Fin 2) R[T;T⁻¹] :=
  !![C cs.1, C ι * C cs.2; C ι * C cs.2, C cs.1]

noncomputable def wMat : Matrix (Fin 2) (Fin 2) R[T;T⁻¹] := !![T 1, 0; 0, T (-1)]

/-- `R(c0) W R(c1) … W R(cn)` as the left fold of `unitary_from_angles` -/
noncomputable def anglesProd (ι : R) : List (R × R) → Matrix (Fin 2) (Fin 2) R[T;T⁻¹]
  | [] => 1
  | c :: cs => cs.foldl (fun M c' => M * wMat * rotMat ι c') (rotMat ι c)

/-! ### the matrix of a pair -/

namespace DS

section
variable (ι : R)

noncomputable def mat (g : P2 R) : Matrix (Fin 2) (Fin 2) R[T;T⁻¹] :=
  !![g.A, C ι * g.B; C ι * invert g.B, invert g.A]

theorem toMat_eq (g : LA R) : toMat ι g = mat ι (pden g) := rfl

theorem mat_mul (hι : ι * ι = -1) (g h : P2 R) : mat ι (g * h) = mat ι g * mat ι h := by
  have hC : (C ι : R[T;T⁻¹]) * C ι = -1 := by
    rw [← RingHom.map_mul, hι, RingHom.map_neg, RingHom.map_one]
  rw [mat, mat, mat, Matrix.mul_fin_two, mul_A, mul_B]
  simp only [invert_sub, invert_add, invert_mul, invert_invert]
  refine mat2_congr ?_ ?_ ?_ ?_
  · linear_combination (-(g.B * invert h.B)) * hC
  · ring
  · ring
  · linear_combination (-(invert g.B * h.B)) * hC

theorem mat_one : mat ι (1 : P2 R) = 1 := by
  rw [mat, one_A, one_B, invert_zero, mul_zero, invert_one, Matrix.one_fin_two]

theorem mat_rot (c : R × R) : mat ι (rot c) = rotMat ι c := by
  rw [mat, rot, rotMat, invert_C, invert_C]

theorem mat_W : mat ι (W : P2 R) = wMat := by
  rw [mat, W, wMat, invert_zero, mul_zero, invert_T]

theorem mat_angP (hι : ι * ι = -1) (cs : List (R × R)) : mat ι (angP cs) = anglesProd ι cs := by
  cases cs with
  | nil => exact mat_one ι
  | cons c cs =>
    rw [angP, ← foldl_eq, anglesProd, ← mat_rot]
    exact (List.foldl_hom (mat ι)
      (H := fun M c' => by rw [mat_mul ι hι, mat_mul ι hι, mat_W, mat_rot])).symm

end

end DS

/-! ### the operations in matrix form -/

section mat
variable (ι : R)

theorem toMat_mul (hι : ι * ι = -1) {g h r : LA R} (hg : g.WF) (hh : h.WF)
    (e : g.mul h = .ok r) : toMat ι r = toMat ι g * toMat ι h ∧ r.WF :=
  ⟨by rw [DS.toMat_eq, DS.pden_mul hg hh e, DS.mat_mul ι hι]; rfl, (LA.mul_ok hg hh e).2.2⟩

theorem toMat_add {g h r : LA R} (hg : g.WF) (hh : h.WF) (e : g.add h = .ok r) :
    toMat ι r = toMat ι g + toMat ι h ∧ r.WF := by
  obtain ⟨hI, hX, hwf⟩ := LA.add_ok hg hh e
  refine ⟨?_, hwf⟩
  rw [toMat, toMat, toMat, hI, hX, add_fin_two, invert_add, invert_add, mul_add, mul_add]

theorem toMat_neg {g r : LA R} (hg : g.WF) (e : g.neg = .ok r) :
    toMat ι r = - toMat ι g ∧ r.WF := by
  obtain ⟨hI, hX, hwf⟩ := LA.neg_ok hg e
  refine ⟨?_, hwf⟩
  rw [toMat, toMat, hI, hX, neg_fin_two, invert_neg, invert_neg, mul_neg, mul_neg]

theorem toMat_conj {g r : LA R} (hg : g.WF) (e : g.conj = .ok r) :
    toMat ι r = ((toMat (-ι) g).map (invert : R[T;T⁻¹] → R[T;T⁻¹])).transpose ∧ r.WF := by
  obtain ⟨hI, hX, hwf⟩ := LA.conj_ok hg e
  refine ⟨?_, hwf⟩
  rw [toMat, hI, hX, Matrix.eta_fin_two (Matrix.transpose _)]
  refine mat2_congr rfl ?_ ?_ rfl
  · show C ι * -den g.X = invert (C (-ι) * invert (den g.X))
    rw [invert_mul, invert_C, invert_invert, RingHom.map_neg, neg_mul, mul_neg]
  · show C ι * invert (-den g.X) = invert (C (-ι) * den g.X)
    rw [invert_mul, invert_C, invert_neg, RingHom.map_neg, neg_mul, mul_neg]

theorem toMat_mulR {g r : LA R} {p : LP R} (hg : g.WF) (hp : p.WF) (e : g.mulR p = .ok r) :
    toMat ι r = toMat ι g * diagMat (den p) ∧ r.WF := by
  obtain ⟨hI, hX, hwf⟩ := LA.mulR_ok hg hp e
  refine ⟨?_, hwf⟩
  rw [toMat, toMat, diagMat, hI, hX, Matrix.mul_fin_two]
  simp only [invert_mul, invert_invert, mul_zero, zero_add, add_zero, mul_assoc]

theorem toMat_mulL {g r : LA R} {p : LP R} (hg : g.WF) (hp : p.WF) (e : LA.mulL p g = .ok r) :
    toMat ι r = diagMat (den p) * toMat ι g ∧ r.WF := by
  obtain ⟨hI, hX, hwf⟩ := LA.mulL_ok hg hp e
  refine ⟨?_, hwf⟩
  rw [toMat, toMat, diagMat, hI, hX, Matrix.mul_fin_two]
  simp only [invert_mul, zero_mul, mul_zero, zero_add, add_zero, mul_left_comm _ (C ι)]

end mat

/-! ### constants -/

theorem toMat_w (ι : R) : toMat ι ⟨LP.w, LP.zero⟩ = wMat := by
  rw [toMat, wMat, den_w, den_zero.1, invert_zero, mul_zero, invert_T]

theorem toMat_iX (ι : R) : toMat ι (LA.iX : LA R) = !![0, C ι; C ι, 0] := by
  rw [toMat, LA.iX, den_mk', denL_nil, den_const, invert_zero, RingHom.map_one, invert_one, mul_one]

theorem toMat_rotation (ι : R) (cs : R × R) : toMat ι (LA.rotation cs) = rotMat ι cs := by
  rw [DS.toMat_eq, DS.pden_rotation, DS.mat_rot]

theorem toMat_one (ι : R) : toMat ι ⟨LP.one, LP.zero⟩ = 1 := by
  rw [toMat, den_one, den_zero.1, invert_zero, mul_zero, invert_one, Matrix.one_fin_two]

theorem diagMat_T : diagMat (T 1 : R[T;T⁻¹]) = wMat := by
  rw [diagMat, wMat, invert_T]

theorem diagMat_one : diagMat (1 : R[T;T⁻¹]) = 1 := by
  rw [diagMat, invert_one, Matrix.one_fin_two]

/-! ### `unitary_from_angles` -/

theorem fromAngles_eq_prod (ι : R) (hι : ι * ι = -1) (cs : List (R × R)) (hcs : cs ≠ []) :
    ∃ g, LA.fromAngles cs = .ok g ∧ toMat ι g = anglesProd ι cs ∧ g.WF := by
  obtain ⟨g, e, hp, hr⟩ := DS.fromAngles_spec cs (cs.length - 1)
    (by have := List.length_pos_iff.mpr hcs; omega)
  exact ⟨g, e, by rw [DS.toMat_eq, hp, DS.mat_angP ι hι], hr.wf⟩

theorem fromAngles_nil : LA.fromAngles ([] : List (R × R)) = .error .other := rfl

/-! ### unitarity of `unitary_from_angles` (no square root of `-1` is needed in `R`) -/

noncomputable def normPoly (g : LA R) : R[T;T⁻¹] :=
  den g.I * invert (den g.I) + den g.X * invert (den g.X)

theorem pnorm_NZ {g : LA R} (hg : g.NZ) : ∃ pn, g.pnorm = .ok pn ∧ den pn = normPoly g := by
  obtain ⟨c, hc, cNZ⟩ := LA.conj_NZ hg
  obtain ⟨m, hm, -⟩ := LA.mul_NZ hg cNZ
  have e : g.pnorm = .ok m.I := by rw [LA.pnorm, hc, ok_bind, hm, ok_bind]
  exact ⟨m.I, e, (pnorm_eq hg.wf e).1⟩

theorem fromAngles_unitary (cs : List (R × R)) (g : LA R)
    (hcs : ∀ c ∈ cs, c.1 ^ 2 + c.2 ^ 2 = 1) (e : LA.fromAngles cs = .ok g) :
    ∃ pn, g.pnorm = .ok pn ∧ den pn = 1 := by
  cases cs with
  | nil => cases e
  | cons c cs =>
    obtain ⟨hp, hr⟩ := DS.fromAngles_ok (n := cs.length) rfl e
    obtain ⟨pn, hpn, hd⟩ := pnorm_NZ hr.1
    exact ⟨pn, hpn, hd.trans ((congrArg DS.nrm hp).trans (DS.nrm_angP _ hcs))⟩

/-! ### `unitary_from_conjugations` -/

/-- `R(t) W R(-t)` -/
noncomputable def genMat (ι : R) (c : R × R) : Matrix (Fin 2) (Fin 2) R[T;T⁻¹] :=
  rotMat ι c * wMat * rotMat ι (c.1, -c.2)

theorem generator_eq (ι : R) (hι : ι * ι = -1) (c : R × R) :
    ∃ g, LA.generator c = .ok g ∧ toMat ι g = genMat ι c ∧ g.NZ := by
  obtain ⟨a, ha, aNZ⟩ := LA.mulR_NZ (NZ_rotation c) (NZ_w (R := R))
  obtain ⟨b, hb, bNZ⟩ := LA.mul_NZ aNZ (NZ_rotation (c.1, -c.2))
  refine ⟨b, ?_, ?_, bNZ⟩
  · rw [LA.generator, ha, ok_bind, hb]
  · rw [(toMat_mul ι hι aNZ.wf (WF_rotation _) hb).1,
      (toMat_mulR ι (WF_rotation c) WF_w ha).1, toMat_rotation, toMat_rotation, den_w, diagMat_T]
    rfl

theorem foldlM_generator (ι : R) (hι : ι * ι = -1) (cs : List (R × R)) (acc : LA R)
    (hacc : acc.NZ) :
    ∃ r, cs.foldlM (fun acc c => do
        let g ← LA.generator c
        acc.mul g) acc = .ok r ∧
      toMat ι r = toMat ι acc * (cs.map (genMat ι)).prod ∧ r.NZ := by
  induction cs generalizing acc with
  | nil => exact ⟨acc, rfl, by simp, hacc⟩
  | cons c cs ih =>
    obtain ⟨g, hg, hm, gNZ⟩ := generator_eq ι hι c
    obtain ⟨b, hb, bNZ⟩ := LA.mul_NZ hacc gNZ
    obtain ⟨r, hr, hrm, rNZ⟩ := ih b bNZ
    refine ⟨r, ?_, ?_, rNZ⟩
    · rw [List.foldlM_cons, hg, ok_bind, hb, ok_bind]
      exact hr
    · rw [hrm, (toMat_mul ι hι hacc.wf gNZ.wf hb).1, hm, List.map_cons, List.prod_cons, mul_assoc]

theorem fromConjugations_eq_prod (ι : R) (hι : ι * ι = -1) (cs : List (R × R)) :
    ∃ g, LA.fromConjugations cs = .ok g ∧
      toMat ι g = (cs.map (fun c => rotMat ι c * wMat * rotMat ι (c.1, -c.2))).prod ∧ g.WF := by
  cases cs with
  | nil => exact ⟨_, rfl, by rw [toMat_one]; rfl, WF_one, den_zero.2⟩
  | cons c cs =>
    obtain ⟨g, hg, hm, gNZ⟩ := generator_eq ι hι c
    obtain ⟨f, hf, fNZ⟩ := LA.mulL_NZ gNZ (NZ_one (R := R))
    obtain ⟨r, hr, hrm, rNZ⟩ := foldlM_generator ι hι cs f fNZ
    refine ⟨r, ?_, ?_, rNZ.wf⟩
    · rw [LA.fromConjugations, hg, ok_bind, hf, ok_bind]
      exact hr
    · rw [hrm, (toMat_mulL ι gNZ.wf WF_one hf).1, den_one, diagMat_one, one_mul, hm,
        List.map_cons, List.prod_cons]
      rfl

/-! ### sign gauge -/

theorem rotMat_scale (ι e : R) (c : R × R) :
    rotMat ι (e * c.1, e * c.2) = (C e : R[T;T⁻¹]) • rotMat ι c := by
  simp only [rotMat, smul_fin_two, smul_eq_mul, RingHom.map_mul, mul_left_comm]

theorem foldl_scale (ι : R) (es : List R) (cs : List (R × R)) (hlen : es.length = cs.length)
    (a : R[T;T⁻¹]) (M : Matrix (Fin 2) (Fin 2) R[T;T⁻¹]) :
    (List.zipWith (fun e c => (e * c.1, e * c.2)) es cs).foldl
        (fun M c' => M * wMat * rotMat ι c') (a • M) =
      (a * C es.prod) • cs.foldl (fun M c' => M * wMat * rotMat ι c') M := by
  induction cs generalizing es a M with
  | nil => rw [List.length_eq_zero_iff.mp hlen]; simp
  | cons c cs ih =>
    obtain ⟨e, es, rfl⟩ := List.exists_cons_of_length_eq_add_one hlen
    simp only [List.zipWith_cons_cons, List.foldl_cons, List.prod_cons]
    rw [rotMat_scale, Matrix.mul_smul, Matrix.smul_mul, Matrix.smul_mul, smul_smul,
      ih es (Nat.succ_injective hlen), RingHom.map_mul, mul_assoc, mul_left_comm]

end QSP
