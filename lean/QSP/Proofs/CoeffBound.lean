/-
  Every coefficient of a trigonometric (Laurent) polynomial is bounded by its sup norm on the
  unit circle (`coeff_le_sup`), by discrete orthogonality of the `N`-th roots of unity — a
  finite, algebraic argument, no integrals.  Corollaries for the model types (`evQ`, `evMat`)
  and the coefficient-wise reading of the gauge validator `validC06`.
-/
import QSP.Proofs.BallSound
import Mathlib.RingTheory.RootsOfUnity.Complex
import Mathlib.RingTheory.RootsOfUnity.PrimitiveRoots
import Mathlib.Algebra.Ring.GeomSum
import Mathlib.Analysis.SpecialFunctions.Complex.Arg
import Mathlib.Data.List.GetD

open Matrix Complex
open scoped Matrix.Norms.L2Operator
namespace QSP

/-! ## `FW` as a finite sum, linearity -/

theorem FW_eq_sum (cs : List ℂ) (d : ℤ) (w : ℂ) :
    FW cs d w = ∑ i ∈ Finset.range cs.length, cs.getD i 0 * w ^ (d + 2 * (i : ℤ)) := by
  induction cs generalizing d with
  | nil => simp [FW]
  | cons c cs ih =>
    rw [FW, ih, List.length_cons, Finset.sum_range_succ', add_comm]
    congr 1
    · apply Finset.sum_congr rfl
      intro i _
      rw [List.getD_cons_succ]
      congr 2
      push_cast; ring
    · simp

theorem FW_sub (a b : List ℂ) (hlen : a.length = b.length) (d : ℤ) (w : ℂ) :
    FW (List.zipWith (fun x y : ℂ => x - y) a b) d w = FW a d w - FW b d w := by
  simpa only [one_mul, neg_one_mul, ← sub_eq_add_neg] using FW_lin2 1 (-1) a b hlen d w

theorem FW_add (a b : List ℂ) (hlen : a.length = b.length) (d : ℤ) (w : ℂ) :
    FW (List.zipWith (fun x y : ℂ => x + y) a b) d w = FW a d w + FW b d w := by
  simpa only [one_mul] using FW_lin2 1 1 a b hlen d w

theorem FW_smul (c : ℂ) (a : List ℂ) (d : ℤ) (w : ℂ) :
    FW (a.map (fun x : ℂ => c * x)) d w = c * FW a d w := by
  induction a generalizing d with
  | nil => simp [FW]
  | cons x a ih => simp only [List.map_cons, FW, ih]; ring

/-! ## discrete orthogonality -/

theorem sum_zpow_primitive_eq_zero {ζ : ℂ} {N : ℕ} (hζ : IsPrimitiveRoot ζ N) (k : ℤ)
    (hk : ¬ (N : ℤ) ∣ k) : ∑ m ∈ Finset.range N, (ζ ^ m) ^ k = 0 := by
  have comm : ∀ m : ℕ, (ζ ^ m) ^ k = (ζ ^ k) ^ m := fun m => by
    rw [← zpow_natCast, ← zpow_mul, mul_comm, zpow_mul, zpow_natCast]
  have h1 : ζ ^ k ≠ 1 := fun h => hk ((hζ.zpow_eq_one_iff_dvd k).mp h)
  -- the geometric sum of `ζ ^ k ≠ 1`, whose `N`-th power is `1`
  have h := mul_geom_sum (ζ ^ k) N
  rw [← comm N, hζ.pow_eq_one, one_zpow, sub_self] at h
  simp only [comm]
  exact (mul_eq_zero.mp h).resolve_left (sub_ne_zero.mpr h1)

theorem FW_dft (cs : List ℂ) (d : ℤ) {ζ : ℂ} (hζ : IsPrimitiveRoot ζ (2 * cs.length + 1))
    (j : ℕ) (hj : j < cs.length) :
    ∑ m ∈ Finset.range (2 * cs.length + 1), FW cs d (ζ ^ m) * (ζ ^ m) ^ (-(d + 2 * (j : ℤ)))
      = ((2 * cs.length + 1 : ℕ) : ℂ) * cs.getD j 0 := by
  have hζ0 : ζ ≠ 0 := hζ.ne_zero (by omega)
  have e1 : ∀ m : ℕ, FW cs d (ζ ^ m) * (ζ ^ m) ^ (-(d + 2 * (j : ℤ)))
      = ∑ i ∈ Finset.range cs.length, cs.getD i 0 * (ζ ^ m) ^ (2 * ((i : ℤ) - (j : ℤ))) := by
    intro m
    rw [FW_eq_sum, Finset.sum_mul]
    refine Finset.sum_congr rfl fun i _ => ?_
    rw [mul_assoc, ← zpow_add₀ (pow_ne_zero _ hζ0)]
    congr 2
    ring
  simp only [e1]
  rw [Finset.sum_comm]
  simp only [← Finset.mul_sum]
  rw [Finset.sum_eq_single_of_mem j (Finset.mem_range.mpr hj)]
  · simp [mul_comm]
  · intro i hi hij
    rw [sum_zpow_primitive_eq_zero hζ, mul_zero]
    -- `N ∣ 2 (i - j)` with `|2 (i - j)| < N = 2 len + 1` forces `i = j`
    intro hdvd
    have hi' := Finset.mem_range.mp hi
    have := Int.eq_zero_of_abs_lt_dvd hdvd (by rw [abs_lt]; constructor <;> push_cast <;> omega)
    omega

/-! ## coefficients are bounded by the sup norm on the circle -/

/-- by `FW_dft`, `N` times the coefficient is a sum of `N` values of `FW` on the circle, each
    times a number of modulus one -/
theorem coeff_le_sup (cs : List ℂ) (d : ℤ) (B : ℝ)
    (h : ∀ w : ℂ, ‖w‖ = 1 → ‖FW cs d w‖ ≤ B) : ∀ j < cs.length, ‖cs.getD j 0‖ ≤ B := by
  intro j hj
  set N := 2 * cs.length + 1 with hN
  have hN0 : N ≠ 0 := by omega
  set ζ := exp (2 * (Real.pi : ℂ) * I / (N : ℂ))
  have hζ : IsPrimitiveRoot ζ N := Complex.isPrimitiveRoot_exp N hN0
  have hnorm : ∀ m : ℕ, ‖ζ ^ m‖ = 1 := by
    intro m
    rw [norm_pow, Complex.norm_eq_one_of_pow_eq_one hζ.pow_eq_one hN0, one_pow]
  have key := FW_dft cs d hζ j hj
  have hNpos : (0 : ℝ) < (N : ℝ) := by exact_mod_cast Nat.pos_of_ne_zero hN0
  have h1 : (N : ℝ) * ‖cs.getD j 0‖ ≤ (N : ℝ) * B := by
    calc (N : ℝ) * ‖cs.getD j 0‖ = ‖((N : ℕ) : ℂ) * cs.getD j 0‖ := by
          rw [norm_mul, Complex.norm_natCast]
      _ = ‖∑ m ∈ Finset.range N, FW cs d (ζ ^ m) * (ζ ^ m) ^ (-(d + 2 * (j : ℤ)))‖ := by
          rw [key]
      _ ≤ ∑ m ∈ Finset.range N, ‖FW cs d (ζ ^ m) * (ζ ^ m) ^ (-(d + 2 * (j : ℤ)))‖ :=
          norm_sum_le _ _
      _ ≤ ∑ _m ∈ Finset.range N, B := by
          apply Finset.sum_le_sum
          intro m _
          rw [norm_mul, norm_zpow, hnorm m, one_zpow, mul_one]
          exact h _ (hnorm m)
      _ = (N : ℝ) * B := by rw [Finset.sum_const, Finset.card_range, nsmul_eq_mul]
  exact le_of_mul_le_mul_left h1 hNpos

theorem coeff_le_sup_theta (cs : List ℂ) (d : ℤ) (B : ℝ)
    (h : ∀ θ : ℝ, ‖FW cs d (exp ((θ : ℂ) * I))‖ ≤ B) : ∀ j < cs.length, ‖cs.getD j 0‖ ≤ B := by
  refine coeff_le_sup cs d B fun w hw => ?_
  obtain ⟨θ, rfl⟩ := (Complex.norm_eq_one_iff w).mp hw
  exact h θ

theorem FW_coeff_close (a a' : List ℂ) (hlen : a'.length = a.length) (d : ℤ) (B : ℝ)
    (h : ∀ θ : ℝ, ‖FW a' d (exp ((θ : ℂ) * I)) - FW a d (exp ((θ : ℂ) * I))‖ ≤ B) :
    ∀ j < a.length, ‖a'.getD j 0 - a.getD j 0‖ ≤ B := by
  intro j hj
  have hj' : j < a'.length := hlen ▸ hj
  have hjz : j < (List.zipWith (fun x y : ℂ => x - y) a' a).length := by
    rw [List.length_zipWith]; omega
  have h0 := coeff_le_sup_theta (List.zipWith (fun x y : ℂ => x - y) a' a) d B
    (fun θ => by rw [FW_sub a' a hlen]; exact h θ) j hjz
  rwa [List.getD_eq_getElem _ _ hjz, List.getElem_zipWith, ← List.getD_eq_getElem _ 0 hj',
    ← List.getD_eq_getElem _ 0 hj] at h0

theorem FW_coeff_close_real (a a' : List ℝ) (hlen : a'.length = a.length) (d : ℤ) (B : ℝ)
    (h : ∀ θ : ℝ, ‖FW (a'.map (fun x : ℝ => (x : ℂ))) d (exp ((θ : ℂ) * I))
        - FW (a.map (fun x : ℝ => (x : ℂ))) d (exp ((θ : ℂ) * I))‖ ≤ B) :
    ∀ j < a.length, |a'.getD j 0 - a.getD j 0| ≤ B := by
  intro j hj
  have cast := getD_map_of_eq (fun x : ℝ => (x : ℂ)) Complex.ofReal_zero
  have := FW_coeff_close _ _ (by rw [List.length_map, List.length_map, hlen]) d B h j
    (by rwa [List.length_map])
  rwa [cast, cast, ← Complex.ofReal_sub, Complex.norm_real, Real.norm_eq_abs] at this

/-! ## the model's polynomials and Low-algebra elements -/

theorem evQ_coeff_le_sup (p : LP ℚ) (B : ℝ) (h : ∀ θ : ℝ, ‖evQ p θ‖ ≤ B) :
    ∀ j < p.coefs.length, |((p.coefs.getD j 0 : ℚ) : ℝ)| ≤ B := by
  intro j hj
  have h1 := coeff_le_sup_theta (p.coefs.map (fun q : ℚ => ((q : ℝ) : ℂ))) p.dmin B h j
    (by rwa [List.length_map])
  rwa [getD_map_of_eq (fun q : ℚ => ((q : ℝ) : ℂ)) (a := 0) (by simp), Complex.norm_real,
    Real.norm_eq_abs] at h1

theorem evMat_coeff_le_sup (g g' : LA ℚ) (hg : g.WF) (hg' : g'.WF) (dI dX : LP ℚ)
    (hI : g'.I.sub g.I = .ok dI) (hX : g'.X.sub g.X = .ok dX) (B : ℝ)
    (h : ∀ θ : ℝ, ‖evMat g' θ - evMat g θ‖ ≤ B) :
    (∀ j < dI.coefs.length, |((dI.coefs.getD j 0 : ℚ) : ℝ)| ≤ B) ∧
    (∀ j < dX.coefs.length, |((dX.coefs.getD j 0 : ℚ) : ℝ)| ≤ B) := by
  constructor
  · refine evQ_coeff_le_sup _ _ fun θ => ?_
    have h2 := norm_evQ_I_sub_le (h θ)
    rwa [evMat_00, ← evQ_sub hg'.1 hg.1 hI θ] at h2
  · refine evQ_coeff_le_sup _ _ fun θ => ?_
    have h2 := norm_evQ_X_sub_le (h θ)
    rwa [evMat_01, ← mul_sub, ← evQ_sub hg'.2 hg.2 hX θ, norm_mul, Complex.norm_I, one_mul] at h2

/-! ## the true coefficients of the circle product `Ucirc`

`Ucirc θ φs = [[P(w), i Q(w)], [i Q(w⁻¹), P(w⁻¹)]]`, `w = e^{iθ}`, with real Laurent
polynomials `P`, `Q` on the powers `-n, -n+2, …, n` (`n + 1` phases): `Ucoef φs` gives their
coefficient lists, low → high, by the exact real recursion, and `Ucirc_eq_cmat` shows that they
represent `Ucirc` on the whole circle; they are the only such lists (`C06b.FW_unique`). -/

theorem FW_shift (a : List ℂ) (d k : ℤ) (w : ℂ) (hw : w ≠ 0) :
    FW a (d + k) w = w ^ k * FW a d w := by
  induction a generalizing d with
  | nil => simp [FW]
  | cons x a ih =>
    simp only [FW]
    rw [show d + k + 2 = (d + 2) + k by ring, ih, zpow_add₀ hw]
    ring

theorem FW_append (a b : List ℂ) (d : ℤ) (w : ℂ) :
    FW (a ++ b) d w = FW a d w + FW b (d + 2 * (a.length : ℤ)) w := by
  induction a generalizing d with
  | nil => simp [FW]
  | cons x a ih =>
    simp only [List.cons_append, FW, ih, List.length_cons]
    rw [show d + 2 + 2 * (a.length : ℤ) = d + 2 * ((a.length + 1 : ℕ) : ℤ) by push_cast; ring]
    ring

theorem FW_cons_zero (a : List ℂ) (d : ℤ) (w : ℂ) (hw : w ≠ 0) :
    FW (0 :: a) (d - 1) w = w * FW a d w := by
  simp only [FW, zero_mul, zero_add]
  rw [show d - 1 + 2 = d + 1 by ring, FW_shift a d 1 w hw, zpow_one]

theorem FW_append_zero (a : List ℂ) (d : ℤ) (w : ℂ) (hw : w ≠ 0) :
    FW (a ++ [0]) (d - 1) w = w⁻¹ * FW a d w := by
  rw [FW_append]
  simp only [FW, zero_mul, add_zero]
  rw [show d - 1 = d + (-1) by ring, FW_shift a d (-1) w hw, zpow_neg_one]

/-- one step `U ↦ U · (W(θ) R(ψ))` on the real coefficient lists, `(c, s) = (cos ψ, sin ψ)` -/
def stepCoef (c s : ℝ) (PQ : List ℝ × List ℝ) : List ℝ × List ℝ :=
  (List.zipWith (fun x y : ℝ => c * x + (-s) * y) (0 :: PQ.1) (PQ.2 ++ [0]),
   List.zipWith (fun x y : ℝ => s * x + c * y) (0 :: PQ.1) (PQ.2 ++ [0]))

noncomputable def Ucoef : List ℝ → List ℝ × List ℝ
  | [] => ([1], [0])
  | φ :: φs => φs.foldl (fun PQ ψ => stepCoef (Real.cos ψ) (Real.sin ψ) PQ)
      ([Real.cos φ], [Real.sin φ])

/-- the matrix `[[P(w), i Q(w)], [i Q(w⁻¹), P(w⁻¹)]]`, `w = e^{iθ}`, of two real coefficient
    lists on the powers `d, d+2, …` -/
noncomputable def cmat (PQ : List ℝ × List ℝ) (d : ℤ) (θ : ℝ) : M22 :=
  !![FW (PQ.1.map (fun x : ℝ => (x : ℂ))) d (exp ((θ : ℂ) * I)),
     I * FW (PQ.2.map (fun x : ℝ => (x : ℂ))) d (exp ((θ : ℂ) * I));
     I * FW (PQ.2.map (fun x : ℝ => (x : ℂ))) d (exp ((θ : ℂ) * I))⁻¹,
     FW (PQ.1.map (fun x : ℝ => (x : ℂ))) d (exp ((θ : ℂ) * I))⁻¹]

theorem stepCoef_length (c s : ℝ) (PQ : List ℝ × List ℝ) (hlen : PQ.1.length = PQ.2.length) :
    (stepCoef c s PQ).1.length = PQ.1.length + 1 ∧
      (stepCoef c s PQ).2.length = PQ.1.length + 1 := by
  simp [stepCoef, hlen]

theorem FW_lin2_real (α β : ℝ) (a b : List ℝ) (hlen : a.length = b.length) (d : ℤ) (w : ℂ) :
    FW ((List.zipWith (fun x y : ℝ => α * x + β * y) a b).map (fun x : ℝ => (x : ℂ))) d w
      = (α : ℂ) * FW (a.map (fun x : ℝ => (x : ℂ))) d w
        + (β : ℂ) * FW (b.map (fun x : ℝ => (x : ℂ))) d w := by
  rw [← FW_lin2 _ _ _ _ (by rw [List.length_map, List.length_map, hlen]), List.map_zipWith,
    List.zipWith_map]
  simp only [Complex.ofReal_add, Complex.ofReal_mul]

theorem FW_stepCoef (c s : ℝ) (PQ : List ℝ × List ℝ) (hlen : PQ.1.length = PQ.2.length)
    (d : ℤ) (w : ℂ) (hw : w ≠ 0) :
    FW ((stepCoef c s PQ).1.map (fun x : ℝ => (x : ℂ))) (d - 1) w
      = (c : ℂ) * (w * FW (PQ.1.map (fun x : ℝ => (x : ℂ))) d w)
        - (s : ℂ) * (w⁻¹ * FW (PQ.2.map (fun x : ℝ => (x : ℂ))) d w) ∧
    FW ((stepCoef c s PQ).2.map (fun x : ℝ => (x : ℂ))) (d - 1) w
      = (s : ℂ) * (w * FW (PQ.1.map (fun x : ℝ => (x : ℂ))) d w)
        + (c : ℂ) * (w⁻¹ * FW (PQ.2.map (fun x : ℝ => (x : ℂ))) d w) := by
  have hl : (0 :: PQ.1).length = (PQ.2 ++ [0]).length := by simp [hlen]
  simp only [stepCoef, FW_lin2_real _ _ _ _ hl, List.map_cons, List.map_append, List.map_nil,
    Complex.ofReal_zero, FW_cons_zero _ _ _ hw, FW_append_zero _ _ _ hw, and_true]
  push_cast
  ring

theorem cmat_step (c s : ℝ) (PQ : List ℝ × List ℝ) (hlen : PQ.1.length = PQ.2.length)
    (d : ℤ) (θ : ℝ) :
    cmat PQ d θ * (wC θ * rotC (c : ℂ) (s : ℂ)) = cmat (stepCoef c s PQ) (d - 1) θ := by
  have hw : exp ((θ : ℂ) * I) ≠ 0 := Complex.exp_ne_zero _
  obtain ⟨a1, a2⟩ := FW_stepCoef c s PQ hlen d _ hw
  obtain ⟨b1, b2⟩ := FW_stepCoef c s PQ hlen d _ (inv_ne_zero hw)
  have hII : (I : ℂ) * I = -1 := Complex.I_mul_I
  simp only [cmat, wC, rotC, mul_fin_two, a1, a2, b1, b2, Complex.exp_neg, inv_inv]
  refine mat2_congr ?_ ?_ ?_ ?_
  · linear_combination
      ((s : ℂ) * (exp ((θ : ℂ) * I))⁻¹ * FW (PQ.2.map (fun x : ℝ => (x : ℂ))) d
        (exp ((θ : ℂ) * I))) * hII
  · ring
  · ring
  · linear_combination
      ((s : ℂ) * (exp ((θ : ℂ) * I)) * FW (PQ.2.map (fun x : ℝ => (x : ℂ))) d
        (exp ((θ : ℂ) * I))⁻¹) * hII

theorem cmat_foldl (ψs : List ℝ) (PQ : List ℝ × List ℝ) (hlen : PQ.1.length = PQ.2.length)
    (d : ℤ) (θ : ℝ) :
    ψs.foldl (fun U ψ => U * (wC θ * rotC (Real.cos ψ) (Real.sin ψ))) (cmat PQ d θ)
      = cmat (ψs.foldl (fun PQ ψ => stepCoef (Real.cos ψ) (Real.sin ψ) PQ) PQ)
          (d - (ψs.length : ℤ)) θ ∧
    (ψs.foldl (fun PQ ψ => stepCoef (Real.cos ψ) (Real.sin ψ) PQ) PQ).1.length
      = PQ.1.length + ψs.length ∧
    (ψs.foldl (fun PQ ψ => stepCoef (Real.cos ψ) (Real.sin ψ) PQ) PQ).2.length
      = PQ.1.length + ψs.length := by
  induction ψs generalizing PQ d with
  | nil => simp [hlen]
  | cons ψ ψs ih =>
    obtain ⟨l1, l2⟩ := stepCoef_length (Real.cos ψ) (Real.sin ψ) PQ hlen
    obtain ⟨i1, i2, i3⟩ := ih (stepCoef (Real.cos ψ) (Real.sin ψ) PQ) (l1.trans l2.symm) (d - 1)
    simp only [List.foldl_cons, List.length_cons]
    rw [cmat_step _ _ _ hlen, i1, i2, i3, l1]
    refine ⟨?_, by omega, by omega⟩
    congr 1
    push_cast; ring

theorem Ucirc_eq_cmat (φs : List ℝ) (θ : ℝ) :
    Ucirc θ φs = cmat (Ucoef φs) (-((φs.length - 1 : ℕ) : ℤ)) θ := by
  cases φs with
  | nil => simp [Ucirc, Ucoef, cmat, FW, one_fin_two]
  | cons φ φs =>
    have h0 : rotC (Real.cos φ) (Real.sin φ) = cmat ([Real.cos φ], [Real.sin φ]) 0 θ := by
      simp [rotC, cmat, FW]
    have := (cmat_foldl φs ([Real.cos φ], [Real.sin φ]) rfl 0 θ).1
    simp only [Ucirc, Ucoef, h0, this]
    congr 1
    simp

theorem Ucoef_length (φs : List ℝ) :
    (Ucoef φs).1.length = (φs.length - 1) + 1 ∧ (Ucoef φs).2.length = (φs.length - 1) + 1 := by
  cases φs with
  | nil => simp [Ucoef]
  | cons φ φs =>
    obtain ⟨-, i2, i3⟩ := cmat_foldl φs ([Real.cos φ], [Real.sin φ]) rfl 0 0
    simp only [Ucoef, i2, i3, List.length_cons, List.length_nil]
    omega

theorem Ucirc_00 (φs : List ℝ) (θ : ℝ) :
    (Ucirc θ φs) 0 0 = FW ((Ucoef φs).1.map (fun x : ℝ => (x : ℂ)))
      (-((φs.length - 1 : ℕ) : ℤ)) (exp ((θ : ℂ) * I)) := by
  rw [Ucirc_eq_cmat]; rfl

theorem Ucirc_01 (φs : List ℝ) (θ : ℝ) :
    (Ucirc θ φs) 0 1 = I * FW ((Ucoef φs).2.map (fun x : ℝ => (x : ℂ)))
      (-((φs.length - 1 : ℕ) : ℤ)) (exp ((θ : ℂ) * I)) := by
  rw [Ucirc_eq_cmat]; rfl

/-! ## pointwise closeness of two circle products is coefficient-wise closeness -/

theorem Ucoef_close (φ φ' : List ℝ) (hlen : φ'.length = φ.length) (B : ℝ)
    (h : ∀ θ : ℝ, ‖Ucirc θ φ' - Ucirc θ φ‖ ≤ B) :
    (∀ j < φ.length, |(Ucoef φ').1.getD j 0 - (Ucoef φ).1.getD j 0| ≤ B) ∧
    (∀ j < φ.length, |(Ucoef φ').2.getD j 0 - (Ucoef φ).2.getD j 0| ≤ B) := by
  obtain ⟨l1, l2⟩ := Ucoef_length φ
  obtain ⟨l1', l2'⟩ := Ucoef_length φ'
  have hentry : ∀ (θ : ℝ) (i k : Fin 2), ‖(Ucirc θ φ') i k - (Ucirc θ φ) i k‖ ≤ B :=
    fun θ i k => (norm_entry_le (Ucirc θ φ' - Ucirc θ φ) i k).trans (h θ)
  constructor
  · intro j hj
    refine FW_coeff_close_real _ _ (by rw [l1, l1', hlen]) (-((φ.length - 1 : ℕ) : ℤ)) B
      (fun θ => ?_) j (by rw [l1]; omega)
    have := hentry θ 0 0
    rwa [Ucirc_00, Ucirc_00, hlen] at this
  · intro j hj
    refine FW_coeff_close_real _ _ (by rw [l2, l2', hlen]) (-((φ.length - 1 : ℕ) : ℤ)) B
      (fun θ => ?_) j (by rw [l2]; omega)
    -- the (0,1) entries are `I ·` the `Q` polynomials
    have := hentry θ 0 1
    rwa [Ucirc_01, Ucirc_01, hlen, ← mul_sub, norm_mul, Complex.norm_I, one_mul] at this

theorem validC06_coeff (phis phis' : List ℚ) (tolE tolG : ℚ) (bits : ℕ) (v : VOut)
    (h : validC06 phis phis' tolE tolG bits = .ok v) (hv : v.ok = true) :
    (∀ j < phis.length,
      |(Ucoef (phis'.map (fun q : ℚ => (q : ℝ)))).1.getD j 0
        - (Ucoef (phis.map (fun q : ℚ => (q : ℝ)))).1.getD j 0| ≤ (tolE : ℝ)) ∧
    (∀ j < phis.length,
      |(Ucoef (phis'.map (fun q : ℚ => (q : ℝ)))).2.getD j 0
        - (Ucoef (phis.map (fun q : ℚ => (q : ℝ)))).2.getD j 0| ≤ (tolE : ℝ)) := by
  obtain ⟨hlen, hsup, -, -⟩ := validC06_sound phis phis' tolE tolG bits v h hv
  have := Ucoef_close (phis.map (fun q : ℚ => (q : ℝ))) (phis'.map (fun q : ℚ => (q : ℝ)))
    (by rw [List.length_map, List.length_map, hlen]) (tolE : ℝ) hsup
  rwa [List.length_map] at this

end QSP
