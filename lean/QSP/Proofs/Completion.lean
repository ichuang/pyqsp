/-
  In exact arithmetic every inside/outside selection of the root pairs `{r, 1/r}` in pyqsp's
  `_fg_completion` gives the same product `G(z) · z^k G(1/z)` up to a non-zero constant
  (properties C03, C04b).  The degree and reversal facts about products of linear factors at the
  end are shared with `PQCompletion` and `RootSpec`.
-/
import Mathlib.Algebra.Polynomial.Monic
import Mathlib.Tactic.LinearCombination
open Polynomial

namespace QSP

section
variable {K : Type} [Field K]

/-- the selection loop of `_fg_completion`: `1/r` where the seed bit is set. A missing bit counts as
    unset (pyqsp raises on a short seed). -/
def flipRoots : List K → List Bool → List K
  | [], _ => []
  | r :: rs, [] => r :: flipRoots rs []
  | r :: rs, b :: bs => (if b then r⁻¹ else r) :: flipRoots rs bs

/-- `∏ (X - r)(1 - r X)`, which is `G(z) · z^k G(1/z)` for `G = Gpoly S` (`pairProd_eq`) -/
noncomputable def pairProd (S : List K) : K[X] :=
  (S.map (fun r => (X - C r) * (1 - C r * X))).prod

/-- the constant by which `flipRoots S seed` changes `pairProd`: `∏ r⁻²` over the flipped roots -/
def flipConst : List K → List Bool → K
  | [], _ => 1
  | _ :: rs, [] => flipConst rs []
  | r :: rs, b :: bs => (if b then r⁻¹ ^ 2 else 1) * flipConst rs bs

/-- `G = ∏ (X - r)` over the selected roots, in `z = w²` -/
noncomputable def Gpoly (S : List K) : K[X] := (S.map (fun r => X - C r)).prod

/-- `z^k G(1/z)` for `G = Gpoly S` (`reverse_Gpoly`, `eval_reverse`) -/
noncomputable def Grev (S : List K) : K[X] := (S.map (fun r => 1 - C r * X)).prod

/-- `∏ (X - s)(X - 1/s)`: what the root finder is specified to have seen, divided by `norm` -/
noncomputable def recipProd (S : List K) : K[X] :=
  (S.map fun s => (X - C s) * (X - C s⁻¹)).prod

theorem flipRoots_cons (r : K) (rs : List K) (seed : List Bool) :
    flipRoots (r :: rs) seed
      = (if seed.headD false then r⁻¹ else r) :: flipRoots rs seed.tail := by
  cases seed <;> rfl

theorem flipConst_cons (r : K) (rs : List K) (seed : List Bool) :
    flipConst (r :: rs) seed
      = (if seed.headD false then r⁻¹ ^ 2 else 1) * flipConst rs seed.tail := by
  cases seed <;> simp [flipConst]

@[simp] theorem pairProd_cons (r : K) (S : List K) :
    pairProd (r :: S) = (X - C r) * (1 - C r * X) * pairProd S := List.prod_cons

@[simp] theorem Gpoly_cons (r : K) (S : List K) : Gpoly (r :: S) = (X - C r) * Gpoly S :=
  List.prod_cons

@[simp] theorem Grev_cons (r : K) (S : List K) : Grev (r :: S) = (1 - C r * X) * Grev S :=
  List.prod_cons

@[simp] theorem recipProd_cons (s : K) (S : List K) :
    recipProd (s :: S) = (X - C s) * (X - C s⁻¹) * recipProd S := List.prod_cons

theorem flipRoots_ne_zero (S : List K) (seed : List Bool) (hS : ∀ r ∈ S, r ≠ 0) :
    ∀ r ∈ flipRoots S seed, r ≠ 0 := by
  induction S generalizing seed with
  | nil => intro r hr; simp [flipRoots] at hr
  | cons r rs ih =>
    rw [flipRoots_cons, List.forall_mem_cons]
    rw [List.forall_mem_cons] at hS
    refine ⟨?_, ih _ hS.2⟩
    split_ifs
    · exact inv_ne_zero hS.1
    · exact hS.1

theorem C_mul_C_inv {r : K} (hr : r ≠ 0) : (C r : K[X]) * C r⁻¹ = 1 := by
  rw [← C_mul, mul_inv_cancel₀ hr, C_1]

theorem pair_inv (r : K) (hr : r ≠ 0) :
    (X - C r⁻¹) * (1 - C r⁻¹ * X) = C (r⁻¹ ^ 2) * ((X - C r) * (1 - C r * X)) := by
  rw [C_pow]
  linear_combination (C r⁻¹ * X ^ 2 + C r⁻¹ - X * (C r * C r⁻¹ + 1)) * C_mul_C_inv hr

/-- property C03: a selection changes the pair product by a non-zero constant only -/
theorem completion_any_seed (S : List K) (seed : List Bool) (hS : ∀ r ∈ S, r ≠ 0) :
    pairProd (flipRoots S seed) = C (flipConst S seed) * pairProd S ∧ flipConst S seed ≠ 0 := by
  induction S generalizing seed with
  | nil => simp [flipRoots, flipConst, pairProd]
  | cons r rs ih =>
    rw [List.forall_mem_cons] at hS
    obtain ⟨ih1, ih2⟩ := ih seed.tail hS.2
    rw [flipRoots_cons, flipConst_cons, pairProd_cons, pairProd_cons, ih1]
    split_ifs
    · rw [pair_inv r hS.1, C_mul]
      exact ⟨mul_mul_mul_comm _ _ _ _, mul_ne_zero (pow_ne_zero _ (inv_ne_zero hS.1)) ih2⟩
    · rw [one_mul]
      exact ⟨mul_left_comm _ _ _, ih2⟩

theorem pairProd_eq (S : List K) : pairProd S = Gpoly S * Grev S := List.prod_map_mul

theorem completion_normalised (S : List K) (seed : List Bool) (hS : ∀ r ∈ S, r ≠ 0) (lead : K) :
    C (lead / flipConst S seed) * (Gpoly (flipRoots S seed) * Grev (flipRoots S seed))
      = C lead * pairProd S := by
  obtain ⟨h1, h2⟩ := completion_any_seed S seed hS
  rw [← pairProd_eq, h1, ← mul_assoc, ← C_mul, div_mul_cancel₀ _ h2]

/-! ### degrees of products of monic factors -/

theorem monic_natDegree_mul {p q : K[X]} {m n : ℕ} (hp : p.Monic ∧ p.natDegree = m)
    (hq : q.Monic ∧ q.natDegree = n) : (p * q).Monic ∧ (p * q).natDegree = m + n :=
  ⟨hp.1.mul hq.1, by rw [hp.1.natDegree_mul hq.1, hp.2, hq.2]⟩

theorem monic_natDegree_list_prod {α : Type} (l : List α) (f : α → K[X]) (d : ℕ)
    (h : ∀ a ∈ l, (f a).Monic ∧ (f a).natDegree = d) :
    (l.map f).prod.Monic ∧ (l.map f).prod.natDegree = d * l.length := by
  induction l with
  | nil => exact ⟨monic_one, natDegree_one⟩
  | cons a as ih =>
    rw [List.forall_mem_cons] at h
    rw [List.map_cons, List.prod_cons, List.length_cons, mul_add_one, add_comm]
    exact monic_natDegree_mul h.1 (ih h.2)

theorem monic_natDegree_X_sub_C (r : K) : (X - C r).Monic ∧ (X - C r).natDegree = 1 :=
  ⟨monic_X_sub_C r, natDegree_X_sub_C r⟩

theorem Gpoly_natDegree (S : List K) : (Gpoly S).natDegree = S.length :=
  (monic_natDegree_list_prod S _ 1 fun r _ => monic_natDegree_X_sub_C r).2.trans (one_mul _)

/-! ### reversal -/

theorem reverse_one_eq : (1 : K[X]).reverse = 1 := by rw [← C_1, reverse_C]

theorem reverse_X_sub_C (r : K) : (X - C r : K[X]).reverse = 1 - C r * X := by
  have hX : (X : K[X]).reverse = 1 := by rw [← one_mul X, reverse_mul_X, reverse_one_eq]
  rw [sub_eq_add_neg, ← C_neg, reverse_add_C, hX, natDegree_X, pow_one, C_neg, neg_mul,
    ← sub_eq_add_neg]

theorem reverse_Gpoly (S : List K) : (Gpoly S).reverse = Grev S := by
  induction S with
  | nil => exact reverse_one_eq
  | cons s S ih => rw [Gpoly_cons, Grev_cons, reverse_mul_of_domain, reverse_X_sub_C, ih]

theorem eval_reverse (p : K[X]) {z : K} (hz : z ≠ 0) :
    p.reverse.eval z = z ^ p.natDegree * p.eval z⁻¹ := by
  let _ := invertibleOfNonzero (inv_ne_zero hz)
  have h : p.reverse.eval z * z⁻¹ ^ p.natDegree = p.eval z⁻¹ := by
    simpa using eval₂_reverse_mul_pow (RingHom.id K) z⁻¹ p
  rw [← h, mul_comm, mul_assoc, ← mul_pow, inv_mul_cancel₀ hz, one_pow, mul_one]

end

end QSP
