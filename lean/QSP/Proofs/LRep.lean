/-
  What the operations of `LP` return on non-zero-flagged operands, as equations between stored
  representations (coefficient list, lowest power, flag).  Everything about the results — well-formedness,
  the flag, the stored range, the parity, the denotation — is read off these equations; at the end, that
  inversion and negation undo themselves on the representation.
-/
import QSP.Model.LPoly
import Mathlib.Algebra.Group.Defs
import Mathlib.Data.List.GetD
import Mathlib.Tactic.Ring
namespace QSP
set_option linter.unusedSectionVars false
variable {R : Type} [Zero R] [Add R] [Mul R] [Neg R]

/-! ### `Except` -/

theorem bind_ok {α β : Type} {x : Except Err α} {f : α → Except Err β} {b : β}
    (h : (x >>= f) = .ok b) : ∃ a, x = .ok a ∧ f a = .ok b := by
  cases x with
  | error e => cases h
  | ok a => exact ⟨a, rfl, h⟩

/-- for the non-vacuity examples: the kernel evaluates one field of a run, this gives back the run -/
theorem ok_of_map_eq {α β : Type} {f : β → α} {x : Except Err β} {a : α}
    (h : x.map f = .ok a) : ∃ v, x = .ok v ∧ f v = a := by
  cases x with
  | error e => cases h
  | ok v => exact ⟨v, rfl, Except.ok.inj h⟩

theorem ok_bind {α β : Type} (a : α) (f : α → Except Err β) : (Except.ok a >>= f) = f a := rfl

theorem ok_inj {α : Type} {a b : α} {x : Except Err α} (h1 : x = .ok a) (h2 : x = .ok b) : a = b :=
  Except.ok.inj (h1.symm.trans h2)

/-! ### lists -/

theorem getD_map_of_eq {α β : Type*} (f : α → β) {a : α} {b : β} (h : f a = b) (l : List α)
    (n : Nat) : (l.map f).getD n b = f (l.getD n a) :=
  h ▸ List.getD_map l a f

theorem getD_range_map {α : Type*} (f : Nat → α) (a : α) (n j : Nat) :
    ((List.range n).map f).getD j a = if j < n then f j else a := by
  by_cases h : j < n
  · rw [if_pos h, List.getD_eq_getElem _ _ (by simpa using h), List.getElem_map, List.getElem_range]
  · rw [if_neg h, List.getD_eq_default _ _ (by simpa using h)]

theorem length_zeros (n : Nat) : (zeros n : List R).length = n := List.length_replicate

theorem length_addL : ∀ (a b : List R), (addL a b).length = max a.length b.length
  | [], b => by simp [addL]
  | (x :: xs), [] => by simp [addL]
  | (x :: xs), (y :: ys) => by
      simp only [addL, List.length_cons, length_addL xs ys]
      omega

theorem zipAdd_eq_addL : ∀ {a b : List R}, a.length = b.length → zipAdd a b = addL a b
  | [], [], _ => rfl
  | x :: _, y :: _, h => congrArg ((x + y) :: ·) (zipAdd_eq_addL (Nat.succ_injective h))

theorem length_convL {a b : List R} (ha : a ≠ []) (hb : b ≠ []) :
    (convL a b).length = a.length + b.length - 1 := by
  induction a with
  | nil => exact absurd rfl ha
  | cons x xs ih =>
    have hbl : 0 < b.length := List.length_pos_iff.mpr hb
    cases xs with
    | nil => simp only [convL, length_addL, List.length_map, List.length_cons, List.length_nil]; omega
    | cons y ys =>
      have := ih (List.cons_ne_nil _ _)
      simp only [convL, length_addL, List.length_map, List.length_cons] at this ⊢
      omega

theorem convL_ne_nil {a : List R} (h : a ≠ []) (b : List R) : convL a b ≠ [] := by
  cases a with
  | nil => exact absurd rfl h
  | cons x xs =>
    rw [convL]
    cases b.map (x * ·) <;> simp [addL]

theorem mem_sliceNegEnd {l : List R} {s e : Int} {x : R} (h : x ∈ sliceNegEnd l s e) : x ∈ l := by
  unfold sliceNegEnd at h
  dsimp only at h
  split at h
  · simp at h
  · exact List.mem_of_mem_take (List.mem_of_mem_drop h)

theorem sliceNegEnd_neg (l : List R) (s e : Nat) (h : e < l.length) :
    sliceNegEnd l s (-(e : Int)) = (l.take (l.length - e)).drop s := by
  have h1 : -(e : Int) + l.length = ((l.length - e : Nat) : Int) := by
    rw [Nat.cast_sub h.le, neg_add_eq_sub]
  rw [sliceNegEnd, h1, if_neg (Int.not_le.mpr (Int.natCast_pos.mpr (Nat.sub_pos_of_lt h))),
    Int.toNat_natCast, Int.toNat_natCast]

section entries
variable {S : Type} [Semiring S]

theorem getD_addL (a b : List S) (k : Nat) :
    (addL a b).getD k 0 = a.getD k 0 + b.getD k 0 := by
  induction a generalizing b k with
  | nil => simp only [addL, List.getD_nil, zero_add]
  | cons x xs ih =>
    cases b with
    | nil => simp only [addL, List.getD_nil, add_zero]
    | cons y ys =>
      cases k with
      | zero => simp only [addL, List.getD_cons_zero]
      | succ k => simp only [addL, List.getD_cons_succ]; exact ih ys k

end entries

theorem length_convL_succ {a b : List R} {m n : Nat} (ha : a.length = m + 1) (hb : b.length = n + 1) :
    (convL a b).length = m + n + 1 := by
  rw [length_convL (List.ne_nil_of_length_eq_add_one ha) (List.ne_nil_of_length_eq_add_one hb), ha, hb]
  omega

/-! ### integers: parity and steps of two -/

theorem half_sub_nonneg {x y : Int} (h : x ≤ y) : 0 ≤ (y - x) / 2 :=
  Int.ediv_nonneg (Int.sub_nonneg_of_le h) (by decide)

theorem add_two_mul_half {x y : Int} (e : x % 2 = y % 2) : x + 2 * ((y - x) / 2) = y := by
  rw [Int.mul_ediv_cancel' (Int.dvd_of_emod_eq_zero (Int.emod_eq_emod_iff_emod_sub_eq_zero.mp e.symm)),
    add_sub_cancel]

theorem min_emod_two {x y : Int} (h : x % 2 = y % 2) : min x y % 2 = x % 2 := by
  rcases min_choice x y with e | e
  · rw [e]
  · rw [e, h]

theorem max_emod_two {x y : Int} (h : x % 2 = y % 2) : max x y % 2 = x % 2 := by
  rcases max_choice x y with e | e
  · rw [e]
  · rw [e, h]

/-! ### the constructor and the stored range -/

theorem LP.mk'_of_ne {cs : List R} (h : cs ≠ []) (d : Int) : LP.mk' cs d = ⟨cs, d, false⟩ := by
  cases cs with
  | nil => exact absurd rfl h
  | cons x xs => rfl

theorem LP.dmax_eq (p : LP R) : p.dmax = 2 * (p.coefs.length : Int) + p.dmin - 2 := rfl

theorem LP.dmax_emod (p : LP R) : p.dmax % 2 = p.dmin % 2 := by rw [LP.dmax_eq]; omega

/-! ### the operations on non-zero-flagged operands -/

variable {p q : LP R}

theorem LP.mul_eq (hp : p.coefs ≠ []) (zp : p.iszero = false) (zq : q.iszero = false) :
    p.mul q = ⟨convL p.coefs q.coefs, p.dmin + q.dmin, false⟩ := by
  simp only [LP.mul, zp, zq, Bool.or_self, Bool.false_eq_true, if_false,
    LP.mk'_of_ne (convL_ne_nil hp _)]

theorem LP.neg_eq (hp : p.coefs ≠ []) (zp : p.iszero = false) :
    p.neg = ⟨p.coefs.map (- ·), p.dmin, false⟩ := by
  rw [LP.neg, zp, if_neg Bool.false_ne_true, LP.mk'_of_ne (mt List.map_eq_nil_iff.mp hp)]

theorem LP.smul_eq (c : R) (hp : p.coefs ≠ []) (zp : p.iszero = false) :
    LP.smul c p = ⟨p.coefs.map (c * ·), p.dmin, false⟩ := by
  rw [LP.smul, zp, if_neg Bool.false_ne_true, LP.mk'_of_ne (mt List.map_eq_nil_iff.mp hp)]

theorem LP.inv_eq (hp : p.coefs ≠ []) (zp : p.iszero = false) :
    p.inv = ⟨p.coefs.reverse, -p.dmax, false⟩ := by
  simp only [LP.inv, zp, Bool.false_eq_true, if_false, LP.mk'_of_ne (mt List.reverse_eq_nil_iff.mp hp)]

/-! ### values stored on a window -/

/-- `p` is not flagged as zero and is stored on the powers `lo, lo + 2, .., hi` -/
structure LP.On (p : LP R) (lo hi : Int) : Prop where
  ne : p.coefs ≠ []
  nz : p.iszero = false
  lo_eq : p.dmin = lo
  hi_eq : p.dmax = hi

variable {a b c d : Int}

namespace LP.On

theorem of (hp : p.coefs ≠ []) (zp : p.iszero = false) : p.On p.dmin p.dmax := ⟨hp, zp, rfl, rfl⟩

theorem range (h : p.On a b) : p.dmin = a ∧ p.dmax = b ∧ p.iszero = false := ⟨h.lo_eq, h.hi_eq, h.nz⟩

theorem wf (h : p.On a b) : p.WF := ⟨h.ne, fun z => by rw [h.nz] at z; cases z⟩

theorem le (h : p.On a b) : a ≤ b := by
  have := List.length_pos_iff.mpr h.ne
  rw [← h.lo_eq, ← h.hi_eq, LP.dmax_eq]; omega

theorem emod (h : p.On a b) : b % 2 = a % 2 := by
  rw [← h.hi_eq, ← h.lo_eq, p.dmax_emod]

theorem parity (h : p.On a b) : p.parity = a % 2 := by rw [LP.parity, h.lo_eq]

theorem eq_mk (h : p.On a b) : p = ⟨p.coefs, a, false⟩ := by
  rw [← h.lo_eq, ← h.nz]

theorem length (h : p.On a b) : (p.coefs.length : Int) = (b - a) / 2 + 1 := by
  rw [← h.lo_eq, ← h.hi_eq, LP.dmax_eq]; omega

theorem of_length {cs : List R} {n : Nat} (h : cs.length = n + 1) (d : Int) :
    (⟨cs, d, false⟩ : LP R).On d (d + 2 * n) :=
  ⟨List.ne_nil_of_length_eq_add_one h, rfl, rfl, by rw [LP.dmax_eq, h]; push_cast; ring⟩

theorem mul (hp : p.On a b) (hq : q.On c d) : (p.mul q).On (a + c) (b + d) := by
  have h1 := List.length_pos_iff.mpr hp.ne
  have h2 := List.length_pos_iff.mpr hq.ne
  rw [LP.mul_eq hp.ne hp.nz hq.nz]
  refine ⟨convL_ne_nil hp.ne _, rfl, by rw [← hp.lo_eq, ← hq.lo_eq], ?_⟩
  rw [← hp.hi_eq, ← hq.hi_eq]
  simp only [LP.dmax_eq, length_convL hp.ne hq.ne]
  omega

theorem map (f : R → R) (hp : p.On a b) : (⟨p.coefs.map f, p.dmin, false⟩ : LP R).On a b :=
  ⟨mt List.map_eq_nil_iff.mp hp.ne, rfl, hp.lo_eq,
    by rw [← hp.hi_eq, LP.dmax_eq, LP.dmax_eq, List.length_map]⟩

theorem neg (hp : p.On a b) : p.neg.On a b := by
  rw [LP.neg_eq hp.ne hp.nz]
  exact hp.map _

theorem smul (x : R) (hp : p.On a b) : (LP.smul x p).On a b := by
  rw [LP.smul_eq x hp.ne hp.nz]
  exact hp.map _

theorem inv (hp : p.On a b) : p.inv.On (-b) (-a) := by
  rw [LP.inv_eq hp.ne hp.nz]
  refine ⟨mt List.reverse_eq_nil_iff.mp hp.ne, rfl, by rw [← hp.hi_eq], ?_⟩
  rw [← hp.lo_eq]; simp only [LP.dmax_eq, List.length_reverse]; omega

end LP.On

/-! ### alignment and sums -/

/-- what `aligned(lo, hi)` returns on a non-zero-flagged `p` whose stored range lies in `lo .. hi`
    (`LP.aligned_eq`): the coefficient list between two blocks of zeros -/
def LP.pad (p : LP R) (lo hi : Int) : List R :=
  zeros ((p.dmin - lo) / 2).toNat ++ p.coefs ++ zeros ((hi - p.dmax) / 2).toNat

theorem LP.aligned_eq (zp : p.iszero = false) {lo hi : Int} (hlo : lo ≤ p.dmin) (hhi : p.dmax ≤ hi) :
    p.aligned lo hi = .ok (p.pad lo hi) := by
  simp only [LP.aligned, zp, Bool.false_eq_true, if_false, hlo, ge_iff_le, hhi, and_self, if_true, LP.pad]

theorem LP.length_pad (p : LP R) (lo hi : Int) :
    ((p.pad lo hi).length : Int) =
      ((p.dmin - lo) / 2).toNat + p.coefs.length + ((hi - p.dmax) / 2).toNat := by
  simp only [LP.pad, List.length_append, length_zeros]; push_cast; rfl

/-- stored from `lo` (of the parity of `p`), the padded list ends at the last power of that parity `≤ hi` -/
theorem LP.pad_end {lo hi : Int} (hlo : lo ≤ p.dmin) (hhi : p.dmax ≤ hi) (e : lo % 2 = p.dmin % 2) :
    lo + 2 * ((p.pad lo hi).length : Int) - 2 = p.dmax + 2 * ((hi - p.dmax) / 2) := by
  have := add_two_mul_half e
  rw [LP.length_pad, Int.toNat_of_nonneg (half_sub_nonneg hlo), Int.toNat_of_nonneg (half_sub_nonneg hhi),
    LP.dmax_eq]
  omega

theorem LP.length_pad_of_parity {lo hi : Int} (hlo : lo ≤ p.dmin) (hhi : p.dmax ≤ hi)
    (e1 : lo % 2 = p.dmin % 2) (e2 : hi % 2 = p.dmax % 2) :
    2 * ((p.pad lo hi).length : Int) + lo - 2 = hi := by
  have := LP.pad_end hlo hhi e1; omega

theorem LP.add_eq (hp : p.coefs ≠ []) (zp : p.iszero = false) (zq : q.iszero = false)
    (hpar : p.parity = q.parity) {lo hi : Int} (hlo : lo = min p.dmin q.dmin)
    (hhi : hi = max p.dmax q.dmax) :
    p.add q = .ok ⟨zipAdd (p.pad lo hi) (q.pad lo hi), lo, false⟩ ∧
      (p.pad lo hi).length = (q.pad lo hi).length ∧
      (⟨zipAdd (p.pad lo hi) (q.pad lo hi), lo, false⟩ : LP R).On lo hi := by
  have hd : p.dmin % 2 = q.dmin % 2 := hpar
  have hD : p.dmax % 2 = q.dmax % 2 := by rw [p.dmax_emod, q.dmax_emod, hd]
  have l1 : lo ≤ p.dmin := hlo ▸ min_le_left ..
  have l2 : lo ≤ q.dmin := hlo ▸ min_le_right ..
  have h1 : p.dmax ≤ hi := hhi ▸ le_max_left ..
  have h2 : q.dmax ≤ hi := hhi ▸ le_max_right ..
  have la := LP.length_pad_of_parity l1 h1 (hlo ▸ min_emod_two hd) (hhi ▸ max_emod_two hD)
  have lb := LP.length_pad_of_parity l2 h2 (hlo ▸ (min_emod_two hd).trans hd)
    (hhi ▸ (max_emod_two hD).trans hD)
  have hl : (p.pad lo hi).length = (q.pad lo hi).length := by omega
  have hz : (zipAdd (p.pad lo hi) (q.pad lo hi)).length = (p.pad lo hi).length := by
    rw [zipAdd, List.length_zipWith, ← hl, Nat.min_self]
  have hne : zipAdd (p.pad lo hi) (q.pad lo hi) ≠ [] := by
    have := (LP.On.of hp zp).le
    exact List.ne_nil_of_length_pos (by omega)
  refine ⟨?_, hl, hne, rfl, rfl, by rw [LP.dmax_eq, hz]; exact la⟩
  simp only [LP.add, zp, zq, Bool.false_eq_true, if_false, hpar, ne_eq, not_true_eq_false,
    ← hlo, ← hhi, LP.aligned_eq zp l1 h1, LP.aligned_eq zq l2 h2, LP.mk'_of_ne hne]

theorem LP.On.add (hp : p.On a b) (hq : q.On c d) (hpar : a % 2 = c % 2) :
    ∃ r, p.add q = .ok r ∧ r.On (min a c) (max b d) :=
  let ⟨e, _, on⟩ := LP.add_eq hp.ne hp.nz hq.nz (by rw [hp.parity, hq.parity, hpar])
    (lo := min a c) (hi := max b d) (by rw [hp.lo_eq, hq.lo_eq]) (by rw [hp.hi_eq, hq.hi_eq])
  ⟨_, e, on⟩

theorem LP.On.sub (hp : p.On a b) (hq : q.On c d) (hpar : a % 2 = c % 2) :
    ∃ r, p.sub q = .ok r ∧ r.On (min a c) (max b d) := hp.add hq.neg hpar

/-! ### involutions on the representation -/

namespace LRange

theorem inv_inv (p : LP R) (hp : p.WF) : p.inv.inv = p := by
  obtain ⟨cs, d, z⟩ := p
  cases z with
  | true => cases hp.2 rfl; simp [LP.inv, LP.mk', LP.dmax]
  | false =>
    have h := (LP.On.of (p := ⟨cs, d, false⟩) hp.1 rfl).inv
    rw [LP.inv_eq h.ne h.nz, LP.inv_eq hp.1 rfl]
    simp only [LP.dmax_eq, List.reverse_reverse, List.length_reverse, LP.mk.injEq, and_true, true_and]
    omega

theorem neg_neg {R : Type} [Zero R] [Add R] [Mul R] [InvolutiveNeg R] (p : LP R) (hp : p.WF) :
    p.neg.neg = p := by
  obtain ⟨cs, d, z⟩ := p
  cases z with
  | true => cases hp.2 rfl; simp [LP.neg, LP.mk']
  | false =>
    have h := (LP.On.of (p := ⟨cs, d, false⟩) hp.1 rfl).neg
    rw [LP.neg_eq h.ne h.nz, LP.neg_eq hp.1 rfl]
    simp only [List.map_map, LP.mk.injEq, and_true]
    exact (List.map_congr_left fun x _ => _root_.neg_neg x).trans (List.map_id _)

theorem inv_flags (p : LP R) (hp : p.WF) : p.inv.iszero = p.iszero ∧ p.inv.parity = p.parity := by
  cases hzero : p.iszero with
  | true => simp [LP.inv, hzero, LP.mk', LP.parity, LP.dmax, hp.2 hzero]
  | false =>
    have h := (LP.On.of hp.1 hzero).inv
    exact ⟨h.nz, by rw [h.parity, Int.neg_emod_two, p.dmax_emod, LP.parity]⟩

theorem neg_flags (p : LP R) (hp : p.WF) : p.neg.iszero = p.iszero ∧ p.neg.parity = p.parity := by
  cases hzero : p.iszero with
  | true => simp [LP.neg, hzero, LP.mk', LP.parity]
  | false => exact ⟨(LP.On.of hp.1 hzero).neg.nz, (LP.On.of hp.1 hzero).neg.parity⟩

end LRange

end QSP
