/-
  The glue of `pyqsp/decomposition.py :: angseq`, `a[:-1] + [a[-1] + b[0]] + b[1:]`, at the matrix
  level (the list level is `QSP/Proofs/Glue.lean`): `rotC` is multiplicative for `rotMul`, so
  `UcircPairs θ` and `Ucirc θ` turn the glue into the matrix product; hence the recursion of `angseq`
  with an exact oracle (`AngSeq`) rebuilds its element.  For the executable model the rational cast
  commutes with the glue.  The property theorems are in `QSP/Properties/C06c.lean`.
-/
import QSP.Proofs.Glue
import QSP.Proofs.BallSound

open Matrix Complex
namespace QSP

/-! ## the glue is the matrix product -/

theorem rotC_rotMul (x y : ℂ × ℂ) :
    rotC (rotMul x y).1 (rotMul x y).2 = rotC x.1 x.2 * rotC y.1 y.2 := by
  rw [rotC, rotC, rotC, Matrix.mul_fin_two]
  refine mat2_congr ?_ ?_ ?_ ?_ <;> simp only [rotMul]
  · linear_combination (-(x.2 * y.2)) * Complex.I_mul_I
  · ring
  · ring
  · linear_combination (-(x.2 * y.2)) * Complex.I_mul_I

theorem prC_add (x y : ℝ) : prC (x + y) = rotMul (prC x) (prC y) := by
  simp only [prC, rotMul, Real.cos_add, Real.sin_add, Complex.ofReal_sub, Complex.ofReal_add,
    Complex.ofReal_mul]

theorem map_prC_mergeAngles (φ ψ : List ℝ) :
    (mergeAngles φ ψ).map prC = mergePairs (φ.map prC) (ψ.map prC) :=
  map_mergeWith _ prC rotMul prC_add φ ψ

theorem wC_neg_mul_cancel (θ : ℝ) (M : M22) : wC (-θ) * (wC θ * M) = M := by
  rw [← Matrix.mul_assoc, wC_neg_mul, Matrix.one_mul]

theorem UcircPairs_mergePairs_total (θ : ℝ) (a b : List (ℂ × ℂ)) :
    UcircPairs θ (mergePairs a b) = UcircPairs θ a * UcircPairs θ b := by
  induction a, b using concat_cons_cases with
  | nil_left b => rw [mergePairs_nil_left, UcircPairs, one_mul]
  | nil_right a => rw [mergePairs_nil_right, UcircPairs, mul_one]
  | concat_cons as x y ys =>
    rw [mergePairs_concat_cons, UcircPairs_eq_prod θ _ (by simp), UcircPairs_eq_prod θ _ (by simp),
      UcircPairs_eq_prod θ _ (List.cons_ne_nil y ys)]
    simp only [List.map_append, List.map_cons, List.map_nil, List.prod_append, List.prod_cons,
      List.prod_nil, stepM, rotC_rotMul, Matrix.mul_assoc, Matrix.mul_one, wC_neg_mul_cancel]

theorem Ucirc_mergeAngles_total (θ : ℝ) (φ ψ : List ℝ) :
    Ucirc θ (mergeAngles φ ψ) = Ucirc θ φ * Ucirc θ ψ := by
  rw [Ucirc_eq_pairs, Ucirc_eq_pairs, Ucirc_eq_pairs, map_prC_mergeAngles,
    UcircPairs_mergePairs_total]

/-! ## the recursion of `angseq` with an exact oracle -/

theorem angseq_step_all (a b : List ℝ) (L R G : ℝ → M22) (ha : ∀ θ, Ucirc θ a = L θ)
    (hb : ∀ θ, Ucirc θ b = R θ) (hG : ∀ θ, G θ = L θ * R θ) (na nb : ℕ)
    (hna : a.length = na + 1) (hnb : b.length = nb + 1) :
    (∀ θ, Ucirc θ (mergeAngles a b) = G θ) ∧ (mergeAngles a b).length = na + nb + 1 := by
  refine ⟨fun θ => by rw [Ucirc_mergeAngles_total, ha, hb, hG], ?_⟩
  have h := length_mergeAngles a b (List.ne_nil_of_length_eq_add_one hna)
    (List.ne_nil_of_length_eq_add_one hnb)
  omega

/-- `AngSeq n g φ`: `angseq` returns `φ` on the element `g` of degree `n`, when `decompose` is an oracle
    whose factorisations `g = l * r` are exact on the circle.  A leaf is an element of degree 1 with its two
    angles; a node may split the degree in any way (the code takes `nl = n / 2`) -/
inductive AngSeq : ℕ → (ℝ → M22) → List ℝ → Prop
  | leaf (g : ℝ → M22) (φ₀ φ₁ : ℝ) (h : ∀ θ, g θ = Ucirc θ [φ₀, φ₁]) : AngSeq 1 g [φ₀, φ₁]
  | node (g l r : ℝ → M22) (nl nr : ℕ) (a b : List ℝ) (hg : ∀ θ, g θ = l θ * r θ)
      (hl : AngSeq nl l a) (hr : AngSeq nr r b) : AngSeq (nl + nr) g (mergeAngles a b)

theorem AngSeq.sound {n : ℕ} {g : ℝ → M22} {φ : List ℝ} (h : AngSeq n g φ) :
    (∀ θ, Ucirc θ φ = g θ) ∧ φ.length = n + 1 ∧ 1 ≤ n := by
  induction h with
  | leaf g φ₀ φ₁ h => exact ⟨fun θ => (h θ).symm, rfl, le_refl _⟩
  | node g l r nl nr a b hg _ _ ihl ihr =>
    obtain ⟨h1, h2⟩ := angseq_step_all a b l r g ihl.1 ihr.1 hg nl nr ihl.2.1 ihr.2.1
    exact ⟨h1, h2, by have := ihl.2.2; omega⟩

/-! ## the executable model -/

theorem castP_rotMul (x y : ℚ × ℚ) : castP (rotMul x y) = rotMul (castP x) (castP y) := by
  simp only [castP, rotMul, Rat.cast_sub, Rat.cast_add, Rat.cast_mul, Complex.ofReal_sub,
    Complex.ofReal_add, Complex.ofReal_mul]

theorem map_castP_mergePairs (a b : List (ℚ × ℚ)) :
    (mergePairs a b).map castP = mergePairs (a.map castP) (b.map castP) :=
  map_mergeWith _ castP rotMul castP_rotMul a b

theorem ne_nil_of_fromAngles_ok {ps : List (ℚ × ℚ)} {g : LA ℚ} (h : LA.fromAngles ps = .ok g) :
    ps ≠ [] := by
  rintro rfl
  cases h

end QSP
