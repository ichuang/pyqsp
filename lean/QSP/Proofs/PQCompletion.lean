/-
  Proofs for the `_pq_completion` glue (`QSP/Model/PQCompletion.lean`), property C05c.

  Over any field `K` with a ring endomorphism `σ` (conjugation) and a square root `i` of `-1`:
  if the root finder's specification holds,
      1 - P P* = L (1 - x²) ∏ (x-r)² ∏ (x²+y²)² ∏ (x-z)(x+z)(x-σz)(x+σz),
  then `Q = s ∏(x-r) ∏(x-iy)(x+iy) ∏(x-z)(x+z)` with `s² = L`, `σ s = s` completes `P`, `L` is
  the ratio the code puts under the square root, and `deg P = #roots(Q) + 1`.  Section `Lists`
  specifies the decision logic (classification, argmin, sort, pairing); section `Denote` reads
  the model's coefficient lists in `ℂ[X]` and states the result for `pqComplete`.
-/
import QSP.Model.PQCompletion
import QSP.Proofs.Sup
import QSP.Proofs.Completion
import Mathlib.Algebra.Polynomial.FieldDivision
import Mathlib.Data.List.GetD
import Mathlib.Data.Complex.Basic
open Polynomial
namespace QSP

/-! ## the exact-arithmetic completion identity -/
section Algebra
variable {K : Type} [Field K]

/-- the monic polynomial `_pq_completion` builds from the selected roots:
    real roots `r`, imaginary roots `± i y`, complex roots `± z` -/
noncomputable def qMonic (i : K) (re im cx : List K) : K[X] :=
  (re.map fun r => X - C r).prod *
    (im.map fun y => (X - C (i * y)) * (X + C (i * y))).prod *
    (cx.map fun z => (X - C z) * (X + C z)).prod

/-- what the root finder is specified to have seen (besides `±1`): every real root of `Q`
    twice, every imaginary pair twice, every complex root with its negative, its conjugate and
    its negative conjugate -/
noncomputable def fullProd (σ : K →+* K) (re im cx : List K) : K[X] :=
  (re.map fun r => (X - C r) ^ 2).prod *
    (im.map fun y => (X ^ 2 + C (y ^ 2)) ^ 2).prod *
    (cx.map fun z => (X - C z) * (X + C z) * (X - C (σ z)) * (X + C (σ z))).prod

theorem pair_monic_natDegree (a : K) :
    ((X - C a) * (X + C a)).Monic ∧ ((X - C a) * (X + C a)).natDegree = 2 :=
  monic_natDegree_mul (monic_natDegree_X_sub_C a) ⟨monic_X_add_C a, natDegree_X_add_C a⟩

theorem qMonic_monic_natDegree (i : K) (re im cx : List K) :
    (qMonic i re im cx).Monic ∧
      (qMonic i re im cx).natDegree = re.length + 2 * im.length + 2 * cx.length := by
  rw [← one_mul re.length]
  exact monic_natDegree_mul (monic_natDegree_mul
    (monic_natDegree_list_prod re _ 1 fun r _ => monic_natDegree_X_sub_C r)
    (monic_natDegree_list_prod im _ 2 fun _ _ => pair_monic_natDegree _))
    (monic_natDegree_list_prod cx _ 2 fun _ _ => pair_monic_natDegree _)

theorem qMonic_monic (i : K) (re im cx : List K) : (qMonic i re im cx).Monic :=
  (qMonic_monic_natDegree i re im cx).1

theorem qMonic_natDegree (i : K) (re im cx : List K) :
    (qMonic i re im cx).natDegree = re.length + 2 * im.length + 2 * cx.length :=
  (qMonic_monic_natDegree i re im cx).2

theorem prod_mul_map_prod {α : Type} (σ : K →+* K) (l : List α) (f g : α → K[X])
    (h : ∀ a ∈ l, f a * (f a).map σ = g a) :
    (l.map f).prod * ((l.map f).prod).map σ = (l.map g).prod := by
  rw [Polynomial.map_list_prod, List.map_map, ← List.prod_map_mul]
  exact congrArg List.prod (List.map_congr_left h)

theorem mul_map_mul₃ (σ : K →+* K) {a b c a' b' c' : K[X]} (ha : a * a.map σ = a')
    (hb : b * b.map σ = b') (hc : c * c.map σ = c') :
    a * b * c * (a * b * c).map σ = a' * b' * c' := by
  rw [Polynomial.map_mul, Polynomial.map_mul, mul_mul_mul_comm, mul_mul_mul_comm a, ha, hb, hc]

/-- `σ i = -i` is not needed: a factor `(x - iy)(x + iy) = x² + y²` is already fixed by `σ` -/
theorem qMonic_mul_conj (σ : K →+* K) (i : K) (hi : i * i = -1)
    (re im cx : List K) (hre : ∀ r ∈ re, σ r = r) (him : ∀ y ∈ im, σ y = y) :
    qMonic i re im cx * (qMonic i re im cx).map σ = fullProd σ re im cx := by
  refine mul_map_mul₃ σ (prod_mul_map_prod σ re _ _ fun r hr => ?_)
    (prod_mul_map_prod σ im _ _ fun y hy => ?_) (prod_mul_map_prod σ cx _ _ fun z _ => ?_)
  · rw [Polynomial.map_sub, map_X, map_C, hre r hr, sq]
  · have e : (X - C (i * y)) * (X + C (i * y)) = X ^ 2 + C (y ^ 2) := by
      rw [mul_comm, ← mul_self_sub_mul_self, ← C_mul, mul_mul_mul_comm, hi, sq, sq, neg_one_mul,
        C_neg, sub_neg_eq_add]
    rw [e, Polynomial.map_add, Polynomial.map_pow, map_X, map_C, map_pow σ, him y hy, ← sq]
  · rw [Polynomial.map_mul, Polynomial.map_sub, Polynomial.map_add, map_X, map_C,
      mul_assoc (_ * _)]

theorem one_sub_X_sq_eq : (1 - X ^ 2 : K[X]) = -(X ^ 2 - C 1) := by simp

theorem natDegree_one_sub_X_sq : (1 - X ^ 2 : K[X]).natDegree = 2 := by
  rw [one_sub_X_sq_eq, natDegree_neg, natDegree_X_pow_sub_C]

/-! What follows needs of `Q` only that it is monic and that `1 - P P* = L (1 - x²) Q Q*`. -/

theorem den_monic (σ : K →+* K) {Q : K[X]} (hQ : Q.Monic) :
    (Q * Q.map σ * (X ^ 2 - C 1)).Monic ∧
      (Q * Q.map σ * (X ^ 2 - C 1)).natDegree = 2 * Q.natDegree + 2 := by
  rw [two_mul]
  exact monic_natDegree_mul (monic_natDegree_mul ⟨hQ, rfl⟩ ⟨hQ.map σ, hQ.natDegree_map σ⟩)
    ⟨monic_X_pow_sub_C 1 two_ne_zero, natDegree_X_pow_sub_C⟩

/-- the denominator of the code's normalisation, `lead(Q Q* (1 - x²))`, is `-1` -/
theorem lead_den (σ : K →+* K) {Q : K[X]} (hQ : Q.Monic) :
    (Q * Q.map σ * (1 - X ^ 2)).leadingCoeff = -1 := by
  rw [one_sub_X_sq_eq, mul_neg, leadingCoeff_neg, (den_monic σ hQ).1]

theorem natDegree_den (σ : K →+* K) {Q : K[X]} (hQ : Q.Monic) :
    (Q * Q.map σ * (1 - X ^ 2)).natDegree = 2 * Q.natDegree + 2 := by
  rw [one_sub_X_sq_eq, mul_neg, natDegree_neg, (den_monic σ hQ).2]

/-- the ratio the code puts under the square root is the constant `L` of the factorisation -/
theorem ratio_of_monic (σ : K →+* K) {Q : K[X]} (hQ : Q.Monic) (P : K[X]) (L : K)
    (hR : 1 - P * P.map σ = C L * (1 - X ^ 2) * (Q * Q.map σ)) :
    (1 - P * P.map σ).leadingCoeff / (Q * Q.map σ * (1 - X ^ 2)).leadingCoeff = L := by
  rw [hR, mul_assoc, leadingCoeff_mul, leadingCoeff_C, mul_comm (1 - X ^ 2), lead_den σ hQ,
    mul_neg_one, neg_div_neg_eq, div_one]

/-- `deg P = deg Q + 1`: from `P P* = 1 - L (1 - x²) Q Q*` the degree of `P P*` is
    `2 deg Q + 2 > 0`, so `P ≠ 0` and it is `2 deg P` -/
theorem root_count_of_monic (σ : K →+* K) {Q : K[X]} (hQ : Q.Monic) (P : K[X]) (L : K)
    (hL : L ≠ 0) (hR : 1 - P * P.map σ = C L * (1 - X ^ 2) * (Q * Q.map σ)) :
    Q.natDegree + 1 = P.natDegree := by
  have h1 : (C L * (1 - X ^ 2) * (Q * Q.map σ)).natDegree = 2 * Q.natDegree + 2 := by
    rw [mul_assoc, natDegree_C_mul hL, mul_comm, natDegree_den σ hQ]
  have hd : (P * P.map σ).natDegree = 2 * Q.natDegree + 2 := by
    rw [← sub_sub_cancel 1 (P * P.map σ), hR,
      natDegree_sub_eq_right_of_natDegree_lt (by rw [natDegree_one, h1]; omega), h1]
  have hP : P ≠ 0 := by rintro rfl; rw [zero_mul, natDegree_zero] at hd; omega
  rw [natDegree_mul hP ((Polynomial.map_ne_zero_iff σ.injective).mpr hP), natDegree_map] at hd
  omega

theorem completion_of_factor (σ : K →+* K) (P Q : K[X]) (L s : K) (hs : s * s = L)
    (hσs : σ s = s) (hR : 1 - P * P.map σ = C L * (1 - X ^ 2) * (Q * Q.map σ)) :
    P * P.map σ + (1 - X ^ 2) * ((C s * Q) * (C s * Q).map σ) = 1 := by
  -- `(s Q) (s Q)* = L · Q Q*`, and `L (1 - x²) Q Q*` is `1 - P P*`
  rw [Polynomial.map_mul, map_C, hσs, mul_mul_mul_comm, ← C_mul, hs, mul_left_comm, ← mul_assoc,
    ← hR, add_sub_cancel]

-- `hσi` is part of the stated property but not needed for it (see `qMonic_mul_conj`)
set_option linter.unusedVariables false in
theorem pq_completion_identity (σ : K →+* K) (i : K) (hi : i * i = -1) (hσi : σ i = -i)
    (re im cx : List K) (hre : ∀ r ∈ re, σ r = r) (him : ∀ y ∈ im, σ y = y)
    (P : K[X]) (L s : K) (hs : s * s = L) (hσs : σ s = s)
    (hR : 1 - P * P.map σ = C L * (1 - X ^ 2) * fullProd σ re im cx) :
    P * P.map σ + (1 - X ^ 2) *
      ((C s * qMonic i re im cx) * (C s * qMonic i re im cx).map σ) = 1 :=
  completion_of_factor σ P _ L s hs hσs (by rwa [qMonic_mul_conj σ i hi re im cx hre him])

end Algebra


/-! ## the decision logic -/
section Lists

/-- The selection loop as three filters of the root list: real (`|Im| < tol`, keeps `Re`),
    imaginary (keeps `Im`) and complex; a root outside the first quadrant (up to `tol`) is in none.
    (The side conditions of `filter_cons_of_pos/neg` are elaborated after the predicate is known:
    hence `by exact`.) -/
theorem classifyPQ_eq (tol : ℚ) (roots : List CQ) :
    classifyPQ tol roots =
      ((roots.filter fun r => decide (qabs r.2 < tol)).map Prod.fst,
       (roots.filter fun r =>
          decide (¬ qabs r.2 < tol ∧ r.1 > -tol ∧ r.2 > -tol ∧ r.1 < tol)).map Prod.snd,
       roots.filter fun r => decide (¬ qabs r.2 < tol ∧ r.1 > -tol ∧ r.2 > -tol ∧ ¬ r.1 < tol)) := by
  induction roots with
  | nil => rfl
  | cons r rs ih =>
    simp only [classifyPQ, ih]
    by_cases h1 : qabs r.2 < tol
    · rw [if_pos h1, List.filter_cons_of_pos (by exact decide_eq_true h1),
        List.filter_cons_of_neg (by exact fun h => (of_decide_eq_true h).1 h1),
        List.filter_cons_of_neg (by exact fun h => (of_decide_eq_true h).1 h1), List.map_cons]
    · rw [if_neg h1, List.filter_cons_of_neg (by exact fun h => h1 (of_decide_eq_true h))]
      by_cases h2 : r.1 > -tol ∧ r.2 > -tol
      · by_cases h3 : r.1 < tol
        · rw [if_pos h2, if_pos h3,
            List.filter_cons_of_pos (by exact decide_eq_true ⟨h1, h2.1, h2.2, h3⟩),
            List.filter_cons_of_neg (by exact fun h => (of_decide_eq_true h).2.2.2 h3),
            List.map_cons]
        · rw [if_pos h2, if_neg h3,
            List.filter_cons_of_neg (by exact fun h => h3 (of_decide_eq_true h).2.2.2),
            List.filter_cons_of_pos (by exact decide_eq_true ⟨h1, h2.1, h2.2, h3⟩)]
      · have h2' : ∀ {p : Prop}, ¬ (¬ qabs r.2 < tol ∧ r.1 > -tol ∧ r.2 > -tol ∧ p) :=
          fun h => h2 ⟨h.2.1, h.2.2.1⟩
        rw [if_neg h2, List.filter_cons_of_neg (by exact fun h => h2' (of_decide_eq_true h)),
          List.filter_cons_of_neg (by exact fun h => h2' (of_decide_eq_true h))]

theorem classifyPQ_length_le (tol : ℚ) (roots : List CQ) :
    (classifyPQ tol roots).1.length + (classifyPQ tol roots).2.1.length
      + (classifyPQ tol roots).2.2.length ≤ roots.length := by
  induction roots with
  | nil => simp [classifyPQ]
  | cons r rs ih =>
    simp only [classifyPQ]
    split_ifs <;> simp only [List.length_cons] <;> omega

theorem argminQ_none (l : List ℚ) : argminQ l = none ↔ l = [] := by
  cases l with
  | nil => simp [argminQ]
  | cons x xs =>
    simp only [argminQ]
    cases argminQ xs with
    | none => simp
    | some m => simp only []; split_ifs <;> simp

/-- `np.argmin`: a valid index, a minimum, and the FIRST one -/
theorem argminQ_spec (l : List ℚ) (j : ℕ) (h : argminQ l = some j) :
    j < l.length ∧ (∀ k, k < l.length → l.getD j 0 ≤ l.getD k 0) ∧
      (∀ k, k < j → l.getD j 0 < l.getD k 0) := by
  induction l generalizing j with
  | nil => cases h
  | cons x xs ih =>
    -- the head and the tail of `x :: xs` are compared with the minimum separately
    rw [List.length_cons, Nat.forall_lt_succ_left]
    cases hx : argminQ xs with
    | none =>
      simp only [argminQ, hx] at h
      cases h
      rw [(argminQ_none xs).1 hx]
      exact ⟨Nat.one_pos, ⟨le_rfl, fun k hk => absurd hk k.not_lt_zero⟩,
        fun k hk => absurd hk k.not_lt_zero⟩
    | some m =>
      obtain ⟨h1, h2, h3⟩ := ih m hx
      simp only [argminQ, hx] at h
      by_cases hc : x ≤ xs.getD m 0
      · rw [if_pos hc] at h
        cases h
        exact ⟨Nat.succ_pos _, ⟨le_rfl, fun k hk => hc.trans (h2 k hk)⟩,
          fun k hk => absurd hk k.not_lt_zero⟩
      · rw [if_neg hc] at h
        cases h
        rw [Nat.forall_lt_succ_left]
        exact ⟨Nat.succ_lt_succ h1, ⟨(not_le.mp hc).le, h2⟩, not_le.mp hc, h3⟩

theorem length_distKeys (c : ℚ) (l : List ℚ) : (distKeys c l).length = l.length :=
  List.length_map _

theorem distKeys_getD (c : ℚ) (l : List ℚ) (k : ℕ) (hk : k < l.length) :
    (distKeys c l).getD k 0 = |c - l.getD k 0| := by
  simp [distKeys, List.getD_eq_getElem?_getD, hk, qabs_eq]

/-- `np.delete(l, np.argmin(np.abs(c - l)))` removes one entry, at the FIRST index whose distance
    from `c` is minimal -/
theorem removeNearest_spec (c : ℚ) (l l' : List ℚ) (h : removeNearest c l = some l') :
    ∃ j, j < l.length ∧ l' = l.eraseIdx j ∧
      (∀ k, k < l.length → |c - l.getD j 0| ≤ |c - l.getD k 0|) ∧
      (∀ k, k < j → |c - l.getD j 0| < |c - l.getD k 0|) := by
  obtain ⟨j, hj, rfl⟩ := Option.map_eq_some_iff.mp h
  obtain ⟨h1, h2, h3⟩ := argminQ_spec _ j hj
  rw [length_distKeys] at h1 h2
  refine ⟨j, h1, rfl, fun k hk => ?_, fun k hk => ?_⟩
  · simpa only [distKeys_getD c l _ h1, distKeys_getD c l _ hk] using h2 k hk
  · simpa only [distKeys_getD c l _ h1, distKeys_getD c l _ (hk.trans h1)] using h3 k hk

theorem insertQ_eq (x : ℚ) (l : List ℚ) : insertQ x l = l.orderedInsert (· ≤ ·) x := by
  induction l with
  | nil => rfl
  | cons y ys ih => rw [insertQ, ih, List.orderedInsert_cons]

theorem sortQ_eq (l : List ℚ) : sortQ l = l.insertionSort (· ≤ ·) := by
  induction l with
  | nil => rfl
  | cons x xs ih => rw [sortQ, ih, insertQ_eq, List.insertionSort_cons]

theorem sortQ_perm (l : List ℚ) : (sortQ l).Perm l := sortQ_eq l ▸ List.perm_insertionSort _ l

theorem sortQ_length (l : List ℚ) : (sortQ l).length = l.length := (sortQ_perm l).length_eq

theorem pairMeans_length : ∀ l : List ℚ, (pairMeans l).length = l.length / 2
  | [] | [_] => by simp [pairMeans]
  | a :: b :: rest => by
    simp only [pairMeans, List.length_cons, pairMeans_length rest]; omega

theorem pairMeans_getD : ∀ (l : List ℚ) (k : ℕ), 2 * k + 1 < l.length →
    (pairMeans l).getD k 0 = (l.getD (2 * k) 0 + l.getD (2 * k + 1) 0) / 2 := by
  intro l k h
  induction k generalizing l with
  | zero => match l, h with
    | a :: b :: rest, _ => rfl
  | succ k ih => match l, h with
    | a :: b :: rest, h =>
      rw [pairMeans, List.getD_cons_succ,
        ih rest (by simp only [List.length_cons] at h; omega)]
      rfl

theorem everySecond_length : ∀ l : List ℚ, (everySecond l).length = (l.length + 1) / 2
  | [] | [_] => by simp [everySecond]
  | a :: b :: rest => by
    simp only [everySecond, List.length_cons, everySecond_length rest]; omega

/-- exact double roots of `Q Q*`, each listed twice in a row, pair up to the roots of `Q` -/
theorem pairMeans_doubled (l : List ℚ) :
    pairMeans (l.flatMap fun r => [r, r]) = l := by
  induction l with
  | nil => rfl
  | cons a as ih =>
    simp only [List.flatMap_cons, List.cons_append, List.nil_append, pairMeans, ih]
    congr 1; ring

end Lists


/-! ## denotation of the model in `ℂ[X]` -/
section Denote

theorem toC_ratRe (r : ℚ) : toC ((r, 0) : CQ) = (r : ℂ) := by apply Complex.ext <;> simp
theorem toC_zero : toC ((0, 0) : CQ) = 0 := by rw [toC_ratRe, Rat.cast_zero]
theorem toC_one : toC ((1, 0) : CQ) = 1 := by rw [toC_ratRe, Rat.cast_one]
theorem toC_neg_one : toC ((-1, 0) : CQ) = -1 := by rw [toC_ratRe, Rat.cast_neg, Rat.cast_one]
theorem toC_neg (a : CQ) : toC a.neg = -toC a := by apply Complex.ext <;> simp [CQ.neg]
theorem toC_I_mul (y : ℚ) : toC ((0, y) : CQ) = Complex.I * (y : ℂ) := by
  apply Complex.ext <;> simp

theorem toC_injective : Function.Injective toC := fun a b h =>
  Prod.ext (by simpa using congrArg Complex.re h) (by simpa using congrArg Complex.im h)

/-- the polynomial in `x` an ascending list of complex-rational coefficients denotes
    (`Polynomial(coef)` of numpy) -/
noncomputable def toPolyC : List CQ → ℂ[X]
  | [] => 0
  | c :: cs => C (toC c) + X * toPolyC cs

theorem toPolyC_cqAddL : ∀ a b : List CQ, toPolyC (cqAddL a b) = toPolyC a + toPolyC b
  | [], b => by simp [cqAddL, toPolyC]
  | x :: xs, [] => by simp [cqAddL, toPolyC]
  | x :: xs, y :: ys => by
    simp only [cqAddL, toPolyC, toC_add, toPolyC_cqAddL xs ys, C_add]; ring

theorem toPolyC_map_mul (x : CQ) (b : List CQ) :
    toPolyC (b.map (x.mul ·)) = C (toC x) * toPolyC b := by
  induction b with
  | nil => simp [toPolyC]
  | cons y ys ih => simp only [List.map_cons, toPolyC, toC_mul, ih, C_mul]; ring

theorem toPolyC_cqConvL (a b : List CQ) : toPolyC (cqConvL a b) = toPolyC a * toPolyC b := by
  induction a with
  | nil => simp [cqConvL, toPolyC]
  | cons x xs ih =>
    simp only [cqConvL, toPolyC_cqAddL, toPolyC_map_mul, toPolyC, ih, toC_zero, C_0]; ring

theorem toPolyC_polyFromRoots (rs : List CQ) :
    toPolyC (polyFromRoots rs) = (rs.map fun r => X - C (toC r)).prod := by
  induction rs with
  | nil => simp [polyFromRoots, toPolyC, toC_one]
  | cons r rs ih =>
    simp only [polyFromRoots, toPolyC_cqConvL, ih, toPolyC, toC_neg, toC_one, List.map_cons,
      List.prod_cons, C_neg, C_1]
    ring

theorem toPolyC_map_conj (q : List CQ) :
    toPolyC (q.map CQ.conj) = (toPolyC q).map (starRingEnd ℂ) := by
  induction q with
  | nil => simp [toPolyC]
  | cons c cs ih =>
    simp only [List.map_cons, toPolyC, toC_conj, ih, Polynomial.map_add, Polynomial.map_mul,
      map_C, map_X]

theorem coeff_toPolyC : ∀ (l : List CQ) (k : ℕ), (toPolyC l).coeff k = toC (l.getD k (0, 0))
  | [], k => by simp [toPolyC, toC_zero]
  | c :: cs, 0 => by simp [toPolyC]
  | c :: cs, k + 1 => by
    simp only [toPolyC, coeff_add, coeff_X_mul, coeff_C_succ, zero_add, coeff_toPolyC cs k,
      List.getD_cons_succ]

theorem length_cqAddL : ∀ a b : List CQ, (cqAddL a b).length = max a.length b.length
  | [], b => by simp [cqAddL]
  | x :: xs, [] => by simp [cqAddL]
  | x :: xs, y :: ys => by simp only [cqAddL, List.length_cons, length_cqAddL xs ys]; omega

theorem length_cqConvL (a b : List CQ) (ha : 0 < a.length) (hb : 0 < b.length) :
    (cqConvL a b).length + 1 = a.length + b.length := by
  induction a with
  | nil => simp at ha
  | cons x xs ih =>
    simp only [cqConvL, length_cqAddL, List.length_map, List.length_cons]
    cases xs with
    | nil => simp only [cqConvL, List.length_nil]; omega
    | cons y ys =>
      have := ih (by simp)
      simp only [List.length_cons] at this ⊢
      omega

theorem polyFromRoots_length (rs : List CQ) : (polyFromRoots rs).length = rs.length + 1 := by
  induction rs with
  | nil => rfl
  | cons r rs ih =>
    have := length_cqConvL [r.neg, (1, 0)] (polyFromRoots rs) (by simp) (by omega)
    simp only [polyFromRoots, List.length_cons, List.length_nil] at this ⊢
    omega

theorem polyFromRoots_monic (rs : List CQ) :
    (toPolyC (polyFromRoots rs)).Monic ∧ (toPolyC (polyFromRoots rs)).natDegree = rs.length := by
  rw [toPolyC_polyFromRoots, ← one_mul rs.length]
  exact monic_natDegree_list_prod rs _ 1 fun r _ => monic_natDegree_X_sub_C _

theorem cq_getLastD_eq_getD (l : List CQ) (d : CQ) : l.getLastD d = l.getD (l.length - 1) d := by
  rw [List.getLastD_eq_getLast?, List.getLast?_eq_getElem?, ← List.getD_eq_getElem?_getD]

theorem toPolyC_one_sub_sq : toPolyC [(1, 0), (0, 0), (-1, 0)] = 1 - X ^ 2 := by
  simp only [toPolyC, toC_one, toC_zero, toC_neg_one, C_1, C_0, C_neg]; ring

theorem pqDen_eq (rs : List CQ) : pqDen (polyFromRoots rs) = (-1, 0) := by
  -- the last entry of the product list is the coefficient at `length - 1 = 2 #rs + 2`, the degree
  -- of `Q · Q* · (1 - X²)` with `Q` monic of degree `#rs`: its leading coefficient, `-1` (`lead_den`)
  apply toC_injective
  have hl := polyFromRoots_length rs
  have hl1 := length_cqConvL (polyFromRoots rs) ((polyFromRoots rs).map CQ.conj)
    (by omega) (by rw [List.length_map]; omega)
  have hl2 := length_cqConvL (cqConvL (polyFromRoots rs) ((polyFromRoots rs).map CQ.conj))
    [(1, 0), (0, 0), (-1, 0)] (by rw [List.length_map] at hl1; omega) (by simp)
  rw [List.length_map] at hl1
  simp only [List.length_cons, List.length_nil] at hl2
  unfold pqDen
  rw [cq_getLastD_eq_getD, ← coeff_toPolyC, toPolyC_cqConvL, toPolyC_cqConvL, toPolyC_map_conj,
    toPolyC_one_sub_sq, toC_neg_one]
  have h := polyFromRoots_monic rs
  have := lead_den (starRingEnd ℂ) h.1
  rw [leadingCoeff, natDegree_den _ h.1, h.2] at this
  rw [show (cqConvL (cqConvL (polyFromRoots rs) ((polyFromRoots rs).map CQ.conj))
    [(1, 0), (0, 0), (-1, 0)]).length - 1 = 2 * rs.length + 2 by omega]
  exact this

theorem pqComplete_eq (tol : ℚ) (roots : List CQ) (lead : ℚ) (q : List CQ) (ratio : ℚ)
    (h : pqComplete tol roots lead = some (q, ratio)) :
    ∃ re im cx, pqSelect tol roots = some (re, im, cx) ∧
      q = polyFromRoots (rootsOfQ re im cx) ∧ ratio = -lead := by
  unfold pqComplete at h
  cases hs : pqSelect tol roots with
  | none => rw [hs] at h; cases h
  | some s =>
    rw [hs] at h
    obtain ⟨re, im, cx⟩ := s
    simp only [Option.some.injEq, Prod.mk.injEq] at h
    obtain ⟨rfl, rfl⟩ := h
    refine ⟨re, im, cx, rfl, rfl, ?_⟩
    rw [pqDen_eq]
    show lead / (-1 : ℚ) = -lead
    rw [div_neg, div_one]

theorem toPolyC_rootsOfQ (re im : List ℚ) (cx : List CQ) :
    toPolyC (polyFromRoots (rootsOfQ re im cx))
      = qMonic Complex.I (re.map fun r : ℚ => (r : ℂ)) (im.map fun y : ℚ => (y : ℂ)) (cx.map toC) := by
  rw [toPolyC_polyFromRoots]
  -- the three blocks of `rootsOfQ` give the three products of `qMonic`; the factor of an added
  -- negative `-a` is `X + C a`, paired with `X - C a` by `List.prod_map_mul`
  simp only [rootsOfQ, qMonic, List.map_append, List.prod_append, List.map_map, Function.comp_def,
    toC_ratRe, toC_I_mul, toC_neg, Rat.cast_neg, mul_neg, C_neg, sub_neg_eq_add, List.prod_map_mul]

/-- `hR` is the root finder's specification for `1 - P P*` on the roots `pqComplete` selected.
    Then `Q = sqrt L · q` completes `P`, `L` is the returned `ratio` when `lead` is the leading
    coefficient of `1 - P P*`, and `q` has `deg P` coefficients. -/
theorem pqComplete_sound (tol : ℚ) (roots : List CQ) (lead : ℚ) (q : List CQ) (ratio : ℚ)
    (h : pqComplete tol roots lead = some (q, ratio))
    (re im : List ℚ) (cx : List CQ) (hsel : pqSelect tol roots = some (re, im, cx))
    (P : ℂ[X]) (L : ℂ)
    (hR : 1 - P * P.map (starRingEnd ℂ) = C L * (1 - X ^ 2) *
      fullProd (starRingEnd ℂ) (re.map fun r : ℚ => (r : ℂ)) (im.map fun y : ℚ => (y : ℂ)) (cx.map toC)) :
    (∀ s : ℝ, (s : ℂ) * s = L →
      P * P.map (starRingEnd ℂ) + (1 - X ^ 2) *
        ((C (s : ℂ) * toPolyC q) * (C (s : ℂ) * toPolyC q).map (starRingEnd ℂ)) = 1) ∧
    ((1 - P * P.map (starRingEnd ℂ)).leadingCoeff = (lead : ℂ) → (ratio : ℂ) = L) ∧
    (L ≠ 0 → q.length = P.natDegree) := by
  obtain ⟨re', im', cx', hsel', rfl, rfl⟩ := pqComplete_eq _ _ _ _ _ h
  rw [hsel] at hsel'
  simp only [Option.some.injEq, Prod.mk.injEq] at hsel'
  obtain ⟨rfl, rfl, rfl⟩ := hsel'
  have hreal (l : List ℚ) : ∀ r ∈ l.map (fun r : ℚ => (r : ℂ)), (starRingEnd ℂ) r = r :=
    List.forall_mem_map.mpr fun a _ => map_ratCast _ a
  obtain ⟨hQ, hdeg⟩ := polyFromRoots_monic (rootsOfQ re im cx)
  rw [← qMonic_mul_conj _ _ Complex.I_mul_I _ _ _ (hreal re) (hreal im), ← toPolyC_rootsOfQ] at hR
  refine ⟨fun s hs => completion_of_factor _ P _ L s hs (Complex.conj_ofReal s) hR, ?_, ?_⟩
  · intro hlead
    have := ratio_of_monic _ hQ P L hR
    rw [lead_den _ hQ, hlead] at this
    rw [← this, Rat.cast_neg, div_neg, div_one]
  · intro hL
    rw [polyFromRoots_length, ← hdeg]
    exact root_count_of_monic _ hQ P L hL hR

end Denote

end QSP
