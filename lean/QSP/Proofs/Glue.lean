/-
  The list glue of `pyqsp/decomposition.py :: angseq`, `a[:-1] + [a[-1] + b[0]] + b[1:]`
  (`QSP/Model/Decomp.lean`), as an operation on every pair of lists.  Everything follows from its value on
  `as ++ [x]`, `y :: ys` (`mergeWith_concat_cons`) by the case split `concat_cons_cases`: the literal Python
  expression, the length, compatibility with `List.map`, associativity (the glue is a monoid operation with
  unit `[]` as soon as the junction function is associative).
-/
import QSP.Model.Decomp
import Mathlib.Tactic.Ring
import Mathlib.Algebra.Ring.Defs

namespace QSP

/-! ## the glue with an arbitrary junction function -/

section glue
variable {α β : Type} (f : α → α → α)

@[simp] theorem mergeWith_nil_left (b : List α) : mergeWith f [] b = b := rfl

@[simp] theorem mergeWith_nil_right (a : List α) : mergeWith f a [] = a := by
  unfold mergeWith
  cases h : a.getLast? with
  | none => exact (List.getLast?_eq_none_iff.mp h).symm
  | some x => rfl

theorem mergeWith_concat_cons (as : List α) (x y : α) (ys : List α) :
    mergeWith f (as ++ [x]) (y :: ys) = as ++ f x y :: ys := by
  simp [mergeWith]

theorem exists_concat_of_ne_nil {l : List α} (h : l ≠ []) : ∃ as x, l = as ++ [x] :=
  ⟨l.dropLast, l.getLast h, (List.dropLast_concat_getLast h).symm⟩

@[elab_as_elim]
theorem concat_cons_cases {P : List α → List α → Prop} (nil_left : ∀ b, P [] b)
    (nil_right : ∀ a, P a []) (concat_cons : ∀ as x y ys, P (as ++ [x]) (y :: ys)) (a b : List α) :
    P a b := by
  by_cases ha : a = []
  · exact ha ▸ nil_left b
  obtain ⟨as, x, rfl⟩ := exists_concat_of_ne_nil ha
  cases b with
  | nil => exact nil_right _
  | cons y ys => exact concat_cons as x y ys

/-- `a[:-1] + [f(a[-1], b[0])] + b[1:]` -/
theorem mergeWith_eq_python (a b : List α) (ha : a ≠ []) (hb : b ≠ []) :
    mergeWith f a b = a.dropLast ++ [f (a.getLast ha) (b.head hb)] ++ b.tail := by
  obtain ⟨y, ys, rfl⟩ := List.exists_cons_of_ne_nil hb
  have h := mergeWith_concat_cons f a.dropLast (a.getLast ha) y ys
  rw [List.dropLast_concat_getLast ha] at h
  rw [h]
  simp

theorem mergeWith_eq_nil_iff (a b : List α) : mergeWith f a b = [] ↔ a = [] ∧ b = [] := by
  induction a, b using concat_cons_cases with
  | nil_left b => simp
  | nil_right a => simp
  | concat_cons as x y ys => simp [mergeWith_concat_cons]

theorem mergeWith_ne_nil_left (a b : List α) (ha : a ≠ []) : mergeWith f a b ≠ [] :=
  fun h => ha ((mergeWith_eq_nil_iff f a b).mp h).1

/-- `n_a + 1` and `n_b + 1` phases give `n_a + n_b + 1`: degrees add -/
theorem length_mergeWith (a b : List α) (ha : a ≠ []) (hb : b ≠ []) :
    (mergeWith f a b).length + 1 = a.length + b.length := by
  obtain ⟨as, x, rfl⟩ := exists_concat_of_ne_nil ha
  obtain ⟨y, ys, rfl⟩ := List.exists_cons_of_ne_nil hb
  rw [mergeWith_concat_cons]
  simp only [List.length_append, List.length_cons, List.length_nil]
  omega

theorem map_mergeWith (g : α → β) (f' : β → β → β) (hg : ∀ x y, g (f x y) = f' (g x) (g y))
    (a b : List α) : (mergeWith f a b).map g = mergeWith f' (a.map g) (b.map g) := by
  induction a, b using concat_cons_cases with
  | nil_left b => simp
  | nil_right a => simp
  | concat_cons as x y ys =>
    rw [mergeWith_concat_cons, List.map_append, List.map_cons, List.map_append, List.map_cons,
      List.map_cons, List.map_nil, mergeWith_concat_cons, hg]

/-- nothing is asked of `f`: with two entries in the middle list the two junctions do not meet -/
theorem mergeWith_assoc_of_two_le (a b c : List α) (hb : 2 ≤ b.length) :
    mergeWith f (mergeWith f a b) c = mergeWith f a (mergeWith f b c) := by
  induction a, c using concat_cons_cases with
  | nil_left c => simp
  | nil_right a => simp
  | concat_cons as x z zs =>
    cases b with
    | nil => simp at hb
    | cons y t =>
      have ht : t ≠ [] := by
        rintro rfl
        simp at hb
      obtain ⟨ys, y', rfl⟩ := exists_concat_of_ne_nil ht
      have e1 : as ++ f x y :: (ys ++ [y']) = (as ++ f x y :: ys) ++ [y'] := by simp
      have e2 : y :: (ys ++ [y']) = (y :: ys) ++ [y'] := by simp
      rw [mergeWith_concat_cons, e1, mergeWith_concat_cons, e2, mergeWith_concat_cons,
        List.cons_append, mergeWith_concat_cons]
      simp

theorem mergeWith_assoc (hf : ∀ x y z, f (f x y) z = f x (f y z)) (a b c : List α) :
    mergeWith f (mergeWith f a b) c = mergeWith f a (mergeWith f b c) := by
  match b with
  | [] => simp
  | y :: y' :: t => exact mergeWith_assoc_of_two_le f a _ c (by simp)
  | [y] =>
    induction a, c using concat_cons_cases with
    | nil_left c => simp
    | nil_right a => simp
    | concat_cons as x z zs =>
      have e : mergeWith f [y] (z :: zs) = f y z :: zs := mergeWith_concat_cons f [] y z zs
      rw [mergeWith_concat_cons, mergeWith_concat_cons, e, mergeWith_concat_cons, hf]

end glue

/-! ## the junctions `+` on phases and `rotMul` on `(cos, sin)` pairs -/

section angles
variable {α : Type} [Add α]

@[simp] theorem mergeAngles_nil_left (b : List α) : mergeAngles [] b = b := rfl

@[simp] theorem mergeAngles_nil_right (a : List α) : mergeAngles a [] = a :=
  mergeWith_nil_right _ a

theorem mergeAngles_concat_cons (as : List α) (x y : α) (ys : List α) :
    mergeAngles (as ++ [x]) (y :: ys) = as ++ (x + y) :: ys :=
  mergeWith_concat_cons _ as x y ys

theorem length_mergeAngles (a b : List α) (ha : a ≠ []) (hb : b ≠ []) :
    (mergeAngles a b).length + 1 = a.length + b.length :=
  length_mergeWith _ a b ha hb

theorem mergeAngles_ne_nil (a b : List α) (ha : a ≠ []) : mergeAngles a b ≠ [] :=
  mergeWith_ne_nil_left _ a b ha

end angles

section pairs
variable {R : Type} [CommRing R]

@[simp] theorem mergePairs_nil_left (b : List (R × R)) : mergePairs [] b = b := rfl

@[simp] theorem mergePairs_nil_right (a : List (R × R)) : mergePairs a [] = a :=
  mergeWith_nil_right _ a

theorem mergePairs_concat_cons (as : List (R × R)) (x y : R × R) (ys : List (R × R)) :
    mergePairs (as ++ [x]) (y :: ys) = as ++ rotMul x y :: ys :=
  mergeWith_concat_cons _ as x y ys

theorem length_mergePairs (a b : List (R × R)) (ha : a ≠ []) (hb : b ≠ []) :
    (mergePairs a b).length + 1 = a.length + b.length :=
  length_mergeWith _ a b ha hb

theorem rotMul_one_left (x : R × R) : rotMul (1, 0) x = x := by
  simp [rotMul]

theorem rotMul_one_right (x : R × R) : rotMul x (1, 0) = x := by
  simp [rotMul]

theorem rotMul_assoc (x y z : R × R) : rotMul (rotMul x y) z = rotMul x (rotMul y z) :=
  Prod.ext (by simp only [rotMul]; ring) (by simp only [rotMul]; ring)

theorem rotMul_normSq (x y : R × R) :
    (rotMul x y).1 * (rotMul x y).1 + (rotMul x y).2 * (rotMul x y).2
      = (x.1 * x.1 + x.2 * x.2) * (y.1 * y.1 + y.2 * y.2) := by
  simp only [rotMul]; ring

end pairs

end QSP
