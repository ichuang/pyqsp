/-
  The defined response depends on each phase only modulo whole turns.  The correspondence harness
  relies on it: it shifts phases far from the origin by whole turns (`core.redphase`) before handing
  them to the executable model, whose Taylor enclosures are built for moderate arguments.  The exact
  shift changes nothing; the rounding of the irrational shift is covered by the harness's
  comparison tolerance (`REDUCTION_SLACK`).
-/
import QSP.Proofs.Response
namespace QSP
open Real

theorem phaseDef_add_turns (so : SigOp) (φ : ℝ) (k : ℤ) :
    phaseDef so (φ + k * (2 * π)) = phaseDef so φ := by
  rw [← phaseG_eq_phaseDef, ← phaseG_eq_phaseDef so φ, Real.cos_add_int_mul_two_pi,
    Real.sin_add_int_mul_two_pi]

theorem foldl_phase_congr (so : SigOp) (a : ℝ) :
    ∀ (ψs φs : List ℝ), List.Forall₂ (fun ψ φ => phaseDef so ψ = phaseDef so φ) ψs φs →
      ∀ U : M22, ψs.foldl (fun U ψ => U * sigDef so a * phaseDef so ψ) U
        = φs.foldl (fun U ψ => U * sigDef so a * phaseDef so ψ) U
  | _, _, .nil, _ => rfl
  | _, _, .cons h t, U => by
      simp only [List.foldl_cons, h]
      exact foldl_phase_congr so a _ _ t _

theorem Udef_phase_congr (so : SigOp) (a : ℝ) (ψs φs : List ℝ)
    (h : List.Forall₂ (fun ψ φ => phaseDef so ψ = phaseDef so φ) ψs φs) :
    Udef so a ψs = Udef so a φs := by
  cases h with
  | nil => rfl
  | cons h t =>
      simp only [Udef, h]
      exact foldl_phase_congr so a _ _ t _

theorem forall₂_shift (so : SigOp) :
    ∀ (φs : List ℝ) (ks : List ℤ), ks.length = φs.length →
      List.Forall₂ (fun ψ φ => phaseDef so ψ = phaseDef so φ)
        (List.zipWith (fun φ (k : ℤ) => φ + k * (2 * π)) φs ks) φs
  | [], [], _ => .nil
  | [], _ :: _, h => by simp at h
  | _ :: _, [], h => by simp at h
  | φ :: φs, k :: ks, h => by
      simp only [List.zipWith_cons_cons]
      exact .cons (phaseDef_add_turns so φ k) (forall₂_shift so φs ks (by simpa using h))

theorem Udef_shift_turns (so : SigOp) (a : ℝ) (φs : List ℝ) (ks : List ℤ) (h : ks.length = φs.length) :
    Udef so a (List.zipWith (fun φ (k : ℤ) => φ + k * (2 * π)) φs ks) = Udef so a φs :=
  Udef_phase_congr so a _ _ (forall₂_shift so φs ks h)

theorem respDef_shift_turns (so : SigOp) (me : Meas) (a : ℝ) (φs : List ℝ) (ks : List ℤ)
    (h : ks.length = φs.length) :
    respDef so me (List.zipWith (fun φ (k : ℤ) => φ + k * (2 * π)) φs ks) a = respDef so me φs a := by
  unfold respDef
  rw [Udef_shift_turns so a φs ks h]

end QSP
