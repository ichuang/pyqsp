/-
  Fixed-point search (property C18, `QSP/Model/FPSearch.lean`).  Conjugation with `cycV` (the axes
  `Z ↦ X ↦ Y`) turns the reflection sequence `U = R ∏_k (e^{iφ_k Z} R)` about `(a, b) = (cos α, sin α)`
  into the Low-algebra product with the angles `0, φ_k + π/2, π/2` at the circle point `e^{iα}`
  (`reflection_as_LA`), so the success probability `|U_00|²` is the squared `|+>` corner of an element
  `fromAngles` computes exactly.  `validFP` compares that corner, as a Laurent polynomial, with
  `1 - T_L(x sin θ)² / T_L(x)²` (a polynomial in `sin² θ`, substituted by Horner's rule) and adds the
  ball of the enclosures; acceptance gives the Yoder–Low–Chuang probability within `tol` for every
  overlap `λ ∈ [0,1]`, and the fixed-point bound.  `fpLayout` is the interleaving of
  `phases.py :: FPSearch.generate`.
-/
import QSP.Model.FPSearch
import QSP.Proofs.BallSound
import QSP.Proofs.ValidCore
import QSP.Proofs.Generators

open Matrix Complex
open scoped Matrix.Norms.L2Operator
namespace QSP

/-! ## the interleaving -/

theorem fpLayoutAux_length (xs ys : List ℚ) :
    (fpLayoutAux xs ys).length = 2 * min xs.length ys.length := by
  induction xs generalizing ys with
  | nil => simp [fpLayoutAux]
  | cons x xs ih =>
    cases ys with
    | nil => simp [fpLayoutAux]
    | cons y ys =>
      rw [fpLayoutAux, List.length_cons, List.length_cons, ih, List.length_cons, List.length_cons,
        Nat.succ_min_succ, Nat.mul_succ]

theorem fpLayout_length (a : List ℚ) : (fpLayout a).length = 2 * a.length := by
  simp [fpLayout, fpLayoutAux_length]

theorem fpLayoutAux_snoc (as bs : List ℚ) (a b : ℚ) (h : as.length = bs.length) :
    fpLayoutAux (as ++ [a]) (bs ++ [b]) = fpLayoutAux as bs ++ [-a / 2, -b / 2] := by
  induction as generalizing bs with
  | nil =>
    cases bs with
    | nil => simp [fpLayoutAux]
    | cons y ys => simp at h
  | cons x xs ih =>
    cases bs with
    | nil => simp at h
    | cons y ys =>
      simp only [List.length_cons, Nat.add_right_cancel_iff] at h
      simp only [List.cons_append, fpLayoutAux, ih ys h]

theorem fpLayoutAux_reverse (xs ys : List ℚ) (h : xs.length = ys.length) :
    (fpLayoutAux xs ys).reverse = fpLayoutAux ys.reverse xs.reverse := by
  induction xs generalizing ys with
  | nil =>
    cases ys with
    | nil => simp [fpLayoutAux]
    | cons y ys => simp at h
  | cons x xs ih =>
    cases ys with
    | nil => simp at h
    | cons y ys =>
      simp only [List.length_cons, Nat.add_right_cancel_iff] at h
      rw [List.reverse_cons, List.reverse_cons,
        fpLayoutAux_snoc _ _ _ _ (by rw [List.length_reverse, List.length_reverse, h]), ← ih ys h,
        fpLayoutAux, List.reverse_cons, List.reverse_cons, List.append_assoc]
      rfl

theorem fpLayoutAux_getD (xs ys : List ℚ) (k : ℕ) (hx : k < xs.length) (hy : k < ys.length) :
    (fpLayoutAux xs ys).getD (2 * k) 0 = -(xs.getD k 0) / 2 ∧
    (fpLayoutAux xs ys).getD (2 * k + 1) 0 = -(ys.getD k 0) / 2 := by
  induction xs generalizing ys k with
  | nil => exact absurd hx (Nat.not_lt_zero k)
  | cons x xs ih =>
    cases ys with
    | nil => exact absurd hy (Nat.not_lt_zero k)
    | cons y ys =>
      cases k with
      | zero => exact ⟨rfl, rfl⟩
      | succ k =>
        rw [fpLayoutAux, Nat.mul_succ]
        exact ih ys k (Nat.lt_of_succ_lt_succ hx) (Nat.lt_of_succ_lt_succ hy)

/-! ## the enclosures of the fixed-point angles -/

/-- the angles `0, φ_1 + π/2, …, φ_{2d} + π/2, π/2` whose Low-algebra product is, up to a phase, the
    reflection sequence with the phases `φs` (`reflection_as_LA_phase`); `fpEncls` encloses them -/
noncomputable def fpAngles (φs : List ℝ) : List ℝ := [0] ++ φs.map (· + Real.pi / 2) ++ [Real.pi / 2]

theorem fpEncls_ok (bits : ℕ) (phis : List ℚ) :
    List.Forall₂ EnclOK (fpEncls bits phis) (fpAngles (phis.map (fun q : ℚ => (q : ℝ)))) := by
  unfold fpEncls fpAngles
  refine List.rel_append (List.rel_append ?_ ?_) ?_
  · refine List.Forall₂.cons ?_ List.Forall₂.nil
    simp [EnclOK]
  · rw [List.map_map, List.forall₂_map_left_iff, List.forall₂_map_right_iff, List.forall₂_same]
    exact fun q _ => EnclOK.shift (trigEncl_sound q bits)
  · refine List.Forall₂.cons ?_ List.Forall₂.nil
    simp [EnclOK]

/-! ## the certificate `validFP` -/

/-! ### coefficient lists as real polynomials -/

theorem polyEvalQ_cast (p : List ℚ) (x : ℚ) : ((polyEvalQ p x : ℚ) : ℝ) = polyAt p (x : ℝ) := by
  induction p with
  | nil => simp [polyEvalQ]
  | cons c cs ih =>
    have e : polyEvalQ (c :: cs) x = c + x * polyEvalQ cs x := rfl
    rw [e, polyAt_cons, ← ih, Rat.cast_add, Rat.cast_mul]

theorem chebTAt_cast (L : ℕ) (x : ℚ) :
    ((chebTAt L x : ℚ) : ℝ) = (Polynomial.Chebyshev.T ℝ (L : ℤ)).eval (x : ℝ) := by
  rw [chebTAt, polyEvalQ_cast, polyAt_chebBasis]

theorem polyAt_scalePow (ts : List ℚ) (x xp : ℚ) (s : ℝ) :
    polyAt (scalePow ts x xp) s = (xp : ℝ) * polyAt ts ((x : ℝ) * s) := by
  induction ts generalizing xp with
  | nil => simp [scalePow]
  | cons t ts ih =>
    simp only [scalePow, polyAt_cons, ih]
    push_cast
    ring

theorem scalePow_getD (ts : List ℚ) (x xp : ℚ) (i : ℕ) :
    (scalePow ts x xp).getD i 0 = ts.getD i 0 * (xp * x ^ i) := by
  induction ts generalizing xp i with
  | nil => simp [scalePow]
  | cons t ts ih =>
    cases i with
    | zero => simp [scalePow]
    | succ i =>
      simp only [scalePow, List.getD_cons_succ, ih]
      ring

theorem scalePow_oppZero (par : ℕ) (ts : List ℚ) (x xp : ℚ) (h : OppZero par ts) :
    OppZero par (scalePow ts x xp) := by
  intro i hi
  rw [scalePow_getD, h i hi, zero_mul]

/-- the list `u` of `validFP` before the division: `T_L(x s)²` as a polynomial in `s²`, `T_L`
    being odd -/
theorem polyAt_fpSquare (d : ℕ) (x : ℚ) (s : ℝ) :
    polyAt (evens (convL (scalePow (chebBasis false (2 * d + 1)) x 1)
        (scalePow (chebBasis false (2 * d + 1)) x 1))) (s ^ 2)
      = ((Polynomial.Chebyshev.T ℝ ((2 * d + 1 : ℕ) : ℤ)).eval ((x : ℝ) * s)) ^ 2 := by
  have ho : OppZero (2 * d + 1) (scalePow (chebBasis false (2 * d + 1)) x 1) :=
    scalePow_oppZero _ _ _ _ (chebBasis_oppZero _)
  have h2 : OppZero 0 (convL (scalePow (chebBasis false (2 * d + 1)) x 1)
        (scalePow (chebBasis false (2 * d + 1)) x 1)) :=
    oppZero_congr (by omega) (convL_oppZero_add _ _ _ _ ho ho)
  rw [polyAt_evens_of_oppZero _ h2, polyAt_convL, polyAt_scalePow, polyAt_chebBasis]
  push_cast
  ring

/-! ### `sin² θ` and its powers as Laurent polynomials -/

theorem WF_sinSqLP : sinSqLP.WF := WF_mk' _ _

/-- `sin² θ = T_0/2 − T_2(cos θ)/2`: `sinSqLP` is the even Chebyshev series `[1/2, -1/2]` -/
theorem evQ_sinSqLP (θ : ℝ) : evQ sinSqLP θ = ((Real.sin θ ^ 2 : ℝ) : ℂ) := by
  have h : sinSqLP = chebToLP 0 [1 / 2, -1 / 2] := by
    unfold sinSqLP chebToLP
    norm_num
  rw [h, (chebToLP_spec 0 _ θ).1, Real.sin_sq_eq_half_sub]
  -- the two terms of the sum: `k = 0` (`cos 0`) and `k = 1` (`cos 2θ`)
  simp only [List.length_cons, List.length_nil, Finset.sum_range_succ, Finset.sum_range_zero,
    List.getD_cons_zero, List.getD_cons_succ, Nat.zero_mod, mul_zero, Nat.cast_zero, zero_mul,
    Real.cos_zero, zero_add]
  push_cast
  ring

theorem substSinSq_spec {u : List ℚ} {q : LP ℚ} (h : substSinSq u = .ok q) :
    q.WF ∧ ∀ θ : ℝ, evQ q θ = ((polyAt u (Real.sin θ ^ 2) : ℝ) : ℂ) := by
  induction u generalizing q with
  | nil =>
    cases h
    exact ⟨den_zero.2, fun θ => by rw [evQ_zero]; simp⟩
  | cons c cs ih =>
    unfold substSinSq at h
    obtain ⟨a, ha, h⟩ := bind_ok h
    obtain ⟨aWF, hev⟩ := ih ha
    have mWF := (den_mul a sinSqLP aWF WF_sinSqLP).2
    refine ⟨(add_ok (WF_mk' _ _) mWF h).2, fun θ => ?_⟩
    rw [evQ_add (WF_mk' _ _) mWF h θ, evQ_const, evQ_mul _ _ aWF WF_sinSqLP, hev, evQ_sinSqLP,
      polyAt_cons]
    push_cast
    ring

/-! ### norms -/

theorem abs_normSq_sub_le (z c : ℂ) (E : ℝ) (h : ‖c - z‖ ≤ E) (hz : ‖z‖ ≤ 1) :
    |‖z‖ ^ 2 - ‖c‖ ^ 2| ≤ 2 * E + E * E := by
  have h1 : |‖z‖ - ‖c‖| ≤ E := by
    rw [norm_sub_rev] at h
    exact (abs_norm_sub_norm_le z c).trans h
  have hE : 0 ≤ E := (abs_nonneg _).trans h1
  have hz0 := norm_nonneg z
  have hc0 := norm_nonneg c
  have hc : ‖c‖ ≤ 1 + E := (norm_le_insert' c z).trans (add_le_add hz h)
  rw [show ‖z‖ ^ 2 - ‖c‖ ^ 2 = (‖z‖ - ‖c‖) * (‖z‖ + ‖c‖) by ring, abs_mul,
    abs_of_nonneg (add_nonneg hz0 hc0)]
  calc |‖z‖ - ‖c‖| * (‖z‖ + ‖c‖) ≤ E * (1 + (1 + E)) :=
        mul_le_mul h1 (add_le_add hz hc) (add_nonneg hz0 hc0) hE
    _ = 2 * E + E * E := by ring

theorem abs_sq_corner_sub_le {g : LA ℚ} {U : M22} {E θ : ℝ} (h : ‖evMat g θ - U‖ ≤ E)
    (hU : ‖U‖ ≤ 1) :
    |‖brG .x U‖ ^ 2 - ((evQ g.I θ).re ^ 2 + (evQ g.X θ).re ^ 2)| ≤ 2 * E + E * E := by
  have h1 := abs_normSq_sub_le _ _ _ (norm_corner_sub_le h) ((norm_bracket_le U .x).trans hU)
  rwa [evQ_sym_real, evQ_sym_real, mul_comm I, Complex.sq_norm (_ + _ * I),
    Complex.normSq_add_mul_I] at h1

/-! ### soundness of `validFP` -/

theorem validFP_sound (d : ℕ) (phis : List ℚ) (x tol : ℚ) (bits : ℕ) (v : VOut)
    (h : validFP d phis x tol bits = .ok v) (hv : v.ok = true) :
    phis.length = 2 * d ∧ 1 ≤ x ∧ ∀ θ : ℝ,
      |‖brG .x (Ucirc θ (fpAngles (phis.map (fun q : ℚ => (q : ℝ)))))‖ ^ 2
        - (1 - ((Polynomial.Chebyshev.T ℝ ((2 * d + 1 : ℕ) : ℤ)).eval ((x : ℝ) * Real.sin θ)) ^ 2
            / ((Polynomial.Chebyshev.T ℝ ((2 * d + 1 : ℕ) : ℤ)).eval (x : ℝ)) ^ 2)|
        ≤ (tol : ℝ) := by
  unfold validFP at h
  dsimp only at h
  split at h
  · cases h; cases hv
  · rename_i hc
    simp only [ne_eq, Bool.or_eq_true, decide_eq_true_eq, not_or, Decidable.not_not, not_lt] at hc
    obtain ⟨g, hg, h⟩ := bind_ok h
    obtain ⟨sa, hsa, h⟩ := bind_ok h
    obtain ⟨sb, hsb, h⟩ := bind_ok h
    obtain ⟨p, hp, h⟩ := bind_ok h
    obtain ⟨q, hq, h⟩ := bind_ok h
    obtain ⟨target, htarget, h⟩ := bind_ok h
    obtain ⟨diff, hdiff, h⟩ := bind_ok h
    cases h
    refine ⟨hc.1, hc.2, fun θ => ?_⟩
    obtain ⟨hS, -, gNZ⟩ := fromAngles_encl_sound _ _ (fpEncls_ok bits phis) g hg
    generalize (prodErr ((fpEncls bits phis).map Encl.rotBound) (1, 0)).2 = E at hS hv
    obtain ⟨esa, saWF⟩ := symHalf_spec g.I sa gNZ.wf.1 hsa θ
    obtain ⟨esb, sbWF⟩ := symHalf_spec g.X sb gNZ.wf.2 hsb θ
    obtain ⟨qWF, hqev⟩ := substSinSq_spec hq
    have mWFa := (den_mul sa sa saWF saWF).2
    have mWFb := (den_mul sb sb sbWF sbWF).2
    -- the exactly computed difference `p − (1 − q)` on the circle, as a real number
    have e : evQ diff θ = (((evQ g.I θ).re ^ 2 + (evQ g.X θ).re ^ 2 -
        (1 - ((Polynomial.Chebyshev.T ℝ ((2 * d + 1 : ℕ) : ℤ)).eval ((x : ℝ) * Real.sin θ)) ^ 2
            / ((Polynomial.Chebyshev.T ℝ ((2 * d + 1 : ℕ) : ℤ)).eval (x : ℝ)) ^ 2) : ℝ) : ℂ) := by
      rw [evQ_sub (add_ok mWFa mWFb hp).2 (sub_ok WF_one qWF htarget).2 hdiff θ,
        evQ_sub WF_one qWF htarget θ, evQ_one, evQ_add mWFa mWFb hp θ, evQ_mul _ _ saWF saWF,
        evQ_mul _ _ sbWF sbWF, esa, esb, evQ_sym_real, evQ_sym_real, hqev θ, polyAt_map_div,
        polyAt_fpSquare, Rat.cast_mul, chebTAt_cast]
      push_cast
      ring
    have hl1 := norm_evQ_le diff θ
    rw [e, Complex.norm_real, Real.norm_eq_abs] at hl1
    have hb : 2 * (E : ℝ) + (E : ℝ) * (E : ℝ) + ((l1 diff.coefs : ℚ) : ℝ) ≤ (tol : ℝ) := by
      rw [add_comm, ← add_assoc]
      exact_mod_cast of_decide_eq_true hv
    exact (abs_sub_le _ _ _).trans ((add_le_add
      (abs_sq_corner_sub_le (hS θ) (norm_Ucirc_le θ _)) hl1).trans hb)

/-! ## the reflection sequence as a Low-algebra product -/

/-- the reflection about the state `(a, b)`, up to sign -/
noncomputable def reflMat (a b : ℝ) : M22 := !![(a : ℂ), (b : ℂ); (b : ℂ), -(a : ℂ)]

/-- `U = R ∏_k (e^{iφ_k Z} R)` -/
noncomputable def Urefl (a b : ℝ) (φs : List ℝ) : M22 :=
  φs.foldl (fun U φ => U * PzMat φ * reflMat a b) (reflMat a b)

/-- `√2 ·` the unitary that cycles the axes `Z ↦ X ↦ Y ↦ Z` -/
noncomputable def cycV : M22 := !![1, -I; 1, I]

theorem cycV_diagC (c s : ℂ) : cycV * diagC c s = rotC c s * cycV := by
  rw [cycV, diagC, rotC, Matrix.mul_fin_two, Matrix.mul_fin_two]
  refine mat2_congr ?_ ?_ ?_ ?_ <;> ring

theorem cycV_reflC (a b : ℂ) : cycV * !![a, b; b, -a] = (-I) • (iX * diagC a b * cycV) := by
  rw [cycV, diagC, iX, Matrix.mul_fin_two, Matrix.mul_fin_two, Matrix.mul_fin_two, smul_fin_two]
  simp only [smul_eq_mul]
  refine mat2_congr ?_ ?_ ?_ ?_
  · linear_combination (a - I * b) * I_sq
  · linear_combination (b * (1 - I ^ 2) + I * a) * I_sq
  · linear_combination (a + I * b) * I_sq
  · linear_combination (b * (1 - I ^ 2) - I * a) * I_sq

theorem cycV_Pz (φ : ℝ) :
    cycV * PzMat φ = rotC ((Real.cos φ : ℝ) : ℂ) ((Real.sin φ : ℝ) : ℂ) * cycV := by
  rw [PzMat_eq, cycV_diagC]

theorem cycV_refl (α : ℝ) :
    cycV * reflMat (Real.cos α) (Real.sin α) = (-I) • (iX * wC α * cycV) := by
  rw [wC_eq, PzMat_eq, ← cycV_reflC]
  rfl

theorem rotC_mul_iX (c s : ℂ) : rotC c s * iX = rotC (-s) c := by
  rw [rotC, rotC, iX, Matrix.mul_fin_two]
  refine mat2_congr ?_ ?_ ?_ ?_
  · linear_combination s * I_sq
  · ring
  · ring
  · linear_combination s * I_sq

theorem rotC_shift (φ : ℝ) :
    rotC ((Real.cos (φ + Real.pi / 2) : ℝ) : ℂ) ((Real.sin (φ + Real.pi / 2) : ℝ) : ℂ)
      = rotC ((Real.cos φ : ℝ) : ℂ) ((Real.sin φ : ℝ) : ℂ) * iX := by
  rw [Real.cos_add_pi_div_two, Real.sin_add_pi_div_two, Complex.ofReal_neg, rotC_mul_iX]

theorem rotC_zero : rotC ((Real.cos 0 : ℝ) : ℂ) ((Real.sin 0 : ℝ) : ℂ) = 1 := by
  rw [Real.cos_zero, Real.sin_zero, Complex.ofReal_one, Complex.ofReal_zero, rotC, mul_zero,
    Matrix.one_fin_two]

theorem rotC_pi_div_two :
    rotC ((Real.cos (Real.pi / 2) : ℝ) : ℂ) ((Real.sin (Real.pi / 2) : ℝ) : ℂ) = iX := by
  rw [Real.cos_pi_div_two, Real.sin_pi_div_two, Complex.ofReal_one, Complex.ofReal_zero, rotC,
    mul_one, iX]

theorem refl_fold (α : ℝ) (φs : List ℝ) (A B : M22) (c : ℂ) (hc : ‖c‖ = 1)
    (hA : cycV * A = c • (iX * B * wC α * cycV)) :
    ∃ c' : ℂ, ‖c'‖ = 1 ∧
      cycV * φs.foldl (fun U φ => U * PzMat φ * reflMat (Real.cos α) (Real.sin α)) A
        = c' • (iX * (φs.map (· + Real.pi / 2)).foldl
            (fun U ψ => U * (wC α * rotC ((Real.cos ψ : ℝ) : ℂ) ((Real.sin ψ : ℝ) : ℂ))) B
              * wC α * cycV) := by
  induction φs generalizing A B c with
  | nil => exact ⟨c, hc, hA⟩
  | cons φ φs ih =>
    rw [List.foldl_cons, List.map_cons, List.foldl_cons]
    refine ih _ _ (c * -I) (by rw [norm_mul, hc, norm_neg, Complex.norm_I, one_mul]) ?_
    rw [rotC_shift]
    calc cycV * (A * PzMat φ * reflMat (Real.cos α) (Real.sin α))
        = (cycV * A) * PzMat φ * reflMat (Real.cos α) (Real.sin α) := by
          simp only [Matrix.mul_assoc]
      _ = c • (iX * B * wC α * (cycV * PzMat φ) * reflMat (Real.cos α) (Real.sin α)) := by
          rw [hA]; simp only [Matrix.smul_mul, Matrix.mul_assoc]
      _ = c • (iX * B * wC α * rotC ((Real.cos φ : ℝ) : ℂ) ((Real.sin φ : ℝ) : ℂ)
            * (cycV * reflMat (Real.cos α) (Real.sin α))) := by
          rw [cycV_Pz]; simp only [Matrix.mul_assoc]
      _ = (c * -I) • (iX * (B * (wC α * (rotC ((Real.cos φ : ℝ) : ℂ) ((Real.sin φ : ℝ) : ℂ) * iX)))
            * wC α * cycV) := by
          rw [cycV_refl]; simp only [Matrix.mul_smul, smul_smul, Matrix.mul_assoc]

theorem sum_col0_cycV_mul (A : M22) : (cycV * A) 0 0 + (cycV * A) 1 0 = 2 * A 0 0 := by
  rw [Matrix.eta_fin_two A, cycV, Matrix.mul_fin_two]
  simp only [Matrix.of_apply, Matrix.cons_val', Matrix.cons_val_zero, Matrix.cons_val_one,
    Matrix.cons_val_fin_one]
  ring

theorem sum_col0_mul_cycV (M : M22) : (M * cycV) 0 0 + (M * cycV) 1 0 = 2 * brG .x M := by
  rw [Matrix.eta_fin_two M, cycV, Matrix.mul_fin_two, brG_x]
  simp only [Matrix.of_apply, Matrix.cons_val', Matrix.cons_val_zero, Matrix.cons_val_one,
    Matrix.cons_val_fin_one]
  ring

theorem brG_x_iX_mul (N : M22) : brG .x (iX * N) = I * brG .x N := by
  rw [Matrix.eta_fin_two N, iX, Matrix.mul_fin_two, brG_x, brG_x]
  simp only [Matrix.of_apply, Matrix.cons_val', Matrix.cons_val_zero, Matrix.cons_val_one,
    Matrix.cons_val_fin_one]
  ring

theorem brG_x_mul_iX (N : M22) : brG .x (N * iX) = I * brG .x N := by
  rw [Matrix.eta_fin_two N, iX, Matrix.mul_fin_two, brG_x, brG_x]
  simp only [Matrix.of_apply, Matrix.cons_val', Matrix.cons_val_zero, Matrix.cons_val_one,
    Matrix.cons_val_fin_one]
  ring

theorem reflection_as_LA_phase (α : ℝ) (φs : List ℝ) :
    ∃ c : ℂ, ‖c‖ = 1 ∧
      (Urefl (Real.cos α) (Real.sin α) φs) 0 0 = c * brG .x (Ucirc α (fpAngles φs)) := by
  obtain ⟨c, hc, hfold⟩ := refl_fold α φs (reflMat (Real.cos α) (Real.sin α))
    (rotC ((Real.cos 0 : ℝ) : ℂ) ((Real.sin 0 : ℝ) : ℂ)) (-I)
    (by rw [norm_neg, Complex.norm_I])
    (by rw [cycV_refl, rotC_zero, Matrix.mul_one])
  refine ⟨c, hc, ?_⟩
  have hU : Ucirc α (fpAngles φs)
      = ((φs.map (· + Real.pi / 2)).foldl
          (fun U ψ => U * (wC α * rotC ((Real.cos ψ : ℝ) : ℂ) ((Real.sin ψ : ℝ) : ℂ)))
          (rotC ((Real.cos 0 : ℝ) : ℂ) ((Real.sin 0 : ℝ) : ℂ)) * wC α) * iX := by
    simp only [fpAngles, List.cons_append, Ucirc, List.foldl_append,
      List.foldl_cons, List.foldl_nil, List.nil_append, rotC_pi_div_two, Matrix.mul_assoc]
  have h1 := sum_col0_cycV_mul (Urefl (Real.cos α) (Real.sin α) φs)
  unfold Urefl at h1 ⊢
  rw [hfold, Matrix.smul_apply, Matrix.smul_apply, smul_eq_mul, smul_eq_mul, ← mul_add,
    sum_col0_mul_cycV, Matrix.mul_assoc, brG_x_iX_mul] at h1
  rw [hU, brG_x_mul_iX]
  linear_combination (-1 / 2 : ℂ) * h1

theorem reflection_as_LA (α : ℝ) (φs : List ℝ) :
    ‖(Urefl (Real.cos α) (Real.sin α) φs) 0 0‖ = ‖brG .x (Ucirc α (fpAngles φs))‖ := by
  obtain ⟨c, hc, h⟩ := reflection_as_LA_phase α φs
  rw [h, norm_mul, hc, one_mul]

/-! ## the property: success probability of the returned phases on all of `[0, 1]` -/

/-- success probability of the reflection sequence at overlap `λ` -/
noncomputable def Psucc (lam : ℝ) (φs : List ℝ) : ℝ :=
  ‖(Urefl (Real.sqrt lam) (Real.sqrt (1 - lam)) φs) 0 0‖ ^ 2

theorem Psucc_eq_corner (lam : ℝ) (hlam : lam ∈ Set.Icc (0 : ℝ) 1) (φs : List ℝ) :
    Real.sin (Real.arccos (Real.sqrt lam)) = Real.sqrt (1 - lam) ∧
    Psucc lam φs = ‖brG .x (Ucirc (Real.arccos (Real.sqrt lam)) (fpAngles φs))‖ ^ 2 := by
  have h0 : (0 : ℝ) ≤ Real.sqrt lam := Real.sqrt_nonneg _
  have h1 : Real.sqrt lam ≤ 1 := Real.sqrt_le_one.mpr hlam.2
  have hc : Real.cos (Real.arccos (Real.sqrt lam)) = Real.sqrt lam :=
    Real.cos_arccos (by linarith) h1
  have hs : Real.sin (Real.arccos (Real.sqrt lam)) = Real.sqrt (1 - lam) := by
    rw [Real.sin_arccos, Real.sq_sqrt hlam.1]
  refine ⟨hs, ?_⟩
  rw [Psucc, ← reflection_as_LA, hc, hs]

theorem validFP_Psucc (d : ℕ) (phis : List ℚ) (x tol : ℚ) (bits : ℕ) (v : VOut)
    (h : validFP d phis x tol bits = .ok v) (hv : v.ok = true)
    (lam : ℝ) (hlam : lam ∈ Set.Icc (0 : ℝ) 1) :
    |Psucc lam (phis.map (fun q : ℚ => (q : ℝ)))
        - (1 - ((Polynomial.Chebyshev.T ℝ ((2 * d + 1 : ℕ) : ℤ)).eval
              ((x : ℝ) * Real.sqrt (1 - lam))) ^ 2
            / ((Polynomial.Chebyshev.T ℝ ((2 * d + 1 : ℕ) : ℤ)).eval (x : ℝ)) ^ 2)|
      ≤ (tol : ℝ) := by
  obtain ⟨hs, hP⟩ := Psucc_eq_corner lam hlam (phis.map (fun q : ℚ => (q : ℝ)))
  have := (validFP_sound d phis x tol bits v h hv).2.2 (Real.arccos (Real.sqrt lam))
  rw [hs] at this
  rw [hP]
  exact this

/-- `x² (1 - λ) ≤ 1` is the fixed-point width `λ ≥ 1 - 1/x²`; the bound is `1 - δ² - tol`,
    `δ = 1 / T_L(x)` -/
theorem validFP_fixed_point (d : ℕ) (phis : List ℚ) (x tol : ℚ) (bits : ℕ) (v : VOut)
    (h : validFP d phis x tol bits = .ok v) (hv : v.ok = true)
    (lam : ℝ) (hlam : lam ∈ Set.Icc (0 : ℝ) 1) (hw : (x : ℝ) ^ 2 * (1 - lam) ≤ 1) :
    1 - 1 / ((Polynomial.Chebyshev.T ℝ ((2 * d + 1 : ℕ) : ℤ)).eval (x : ℝ)) ^ 2 - (tol : ℝ)
      ≤ Psucc lam (phis.map (fun q : ℚ => (q : ℝ))) := by
  have hP := (abs_le.mp (validFP_Psucc d phis x tol bits v h hv lam hlam)).1
  have hx : (1 : ℝ) ≤ (x : ℝ) := by exact_mod_cast (validFP_sound d phis x tol bits v h hv).2.1
  have hT1 := Polynomial.Chebyshev.one_le_eval_T_real ((2 * d + 1 : ℕ) : ℤ) hx
  have hy : |(x : ℝ) * Real.sqrt (1 - lam)| ≤ 1 := by
    rw [← sq_le_one_iff_abs_le_one, mul_pow, Real.sq_sqrt (sub_nonneg.2 hlam.2)]
    exact hw
  -- `T_L(y)² ≤ 1` for `|y| ≤ 1`, divided by `T_L(x)² > 0`
  have hdiv := div_le_div_of_nonneg_right
    ((sq_le_one_iff_abs_le_one _).2 (Polynomial.Chebyshev.abs_eval_T_real_le_one ((2 * d + 1 : ℕ) : ℤ) hy))
    (pow_pos (one_pos.trans_le hT1) 2).le
  linarith

end QSP
