/-
  The phase layout of `SymmetricQSPProtocol` (property C12): length and palindromy of the full
  phase list, the positions a reduced phase occupies in it, `update_reduced_phases` as a fresh
  construction; and the two symmetries of the Wx product the layout exploits:
  `W(-a) = -Z W(a) Z` (parity of the response) and the lemmas for `Uᵀ` = the product of the
  reversed list (`C12.Udef_Wx_transpose`).
-/
import QSP.Model.SymQSP
import QSP.Proofs.Response
import Mathlib.Data.List.GetD
open Matrix Complex
namespace QSP

/-! ## lists: `getD`, `set`, and the mirrored copy in `a.reverse ++ b` -/

section lists
variable {α : Type}

theorem ne_nil_of_lt_length {l : List α} {p : ℕ} (hp : p < l.length) : l ≠ [] :=
  List.ne_nil_of_length_pos (Nat.zero_lt_of_lt hp)

theorem set_getD_self (l : List α) (q : ℕ) (d : α) (hq : q < l.length) :
    l.set q (l.getD q d) = l := by
  rw [List.getD_eq_getElem _ _ hq, List.set_getElem_self]

theorem reverse_set (l : List α) (i : ℕ) (hi : i < l.length) (a : α) :
    (l.set i a).reverse = l.reverse.set (l.length - 1 - i) a := by
  apply List.ext_getElem
  · simp
  · intro n h1 h2
    simp only [List.length_reverse, List.length_set] at h1
    simp only [List.getElem_reverse, List.getElem_set, List.length_set]
    by_cases h : i = l.length - 1 - n
    · rw [if_pos h, if_pos (by omega)]
    · rw [if_neg h, if_neg (by omega)]

theorem getD_reverse_append (a b : List α) (i : ℕ) (hi : i < a.length) (d : α) :
    (a.reverse ++ b).getD (a.length - 1 - i) d = a.getD i d := by
  have hi' : a.length - 1 - i < a.reverse.length := by rw [List.length_reverse]; omega
  rw [List.getD_append _ _ _ _ hi', List.getD_eq_getElem _ _ hi', List.getElem_reverse,
    List.getD_eq_getElem _ _ hi]
  congr 1
  omega

theorem set_reverse_append (a b : List α) (i : ℕ) (hi : i < a.length) (t : α) :
    (a.reverse ++ b).set (a.length - 1 - i) t = (a.set i t).reverse ++ b := by
  rw [reverse_set _ _ hi, List.set_append_left _ _ (by rw [List.length_reverse]; omega)]

theorem getD_append_add {a b : List α} {n : ℕ} (h : a.length = n) (i : ℕ) (d : α) :
    (a ++ b).getD (n + i) d = b.getD i d := by
  subst h
  rw [List.getD_append_right _ _ _ _ (Nat.le_add_right _ _), Nat.add_sub_cancel_left]

theorem getD_reverse_append_add (a b : List α) (i : ℕ) (d : α) :
    (a.reverse ++ b).getD (a.length + i) d = b.getD i d :=
  getD_append_add List.length_reverse i d

theorem set_append_add {a b : List α} {n : ℕ} (h : a.length = n) (i : ℕ) (t : α) :
    (a ++ b).set (n + i) t = a ++ b.set i t := by
  subst h
  rw [List.set_append_right _ _ (Nat.le_add_right _ _), Nat.add_sub_cancel_left]

end lists

/-! ## the layout -/

section layout
variable {R : Type} [Zero R] [One R] [Add R] [Mul R] [Neg R]

-- the instances are those of the model's section; `layout` uses `1`, `+` and `*` only
set_option linter.unusedSectionVars false in
theorem layout_palindrome (parity : ℤ) (r : List R) :
    (layout parity r).reverse = layout parity r := by
  unfold layout
  split_ifs with h
  · simp
  · cases r with
    | nil => rfl
    | cons x rest => simp

omit [Zero R] [Neg R]

theorem layout_nil (parity : ℤ) : layout parity ([] : List R) = [] := by
  unfold layout
  split_ifs <;> rfl

theorem layout_length (parity : ℤ) (r : List R) :
    (layout parity r).length = if parity = 1 then 2 * r.length else 2 * r.length - 1 := by
  unfold layout
  split_ifs
  · rw [List.length_append, List.length_reverse]
    omega
  · cases r with
    | nil => rfl
    | cons x rest =>
      simp only [List.length_append, List.length_reverse, List.length_cons, List.length_nil]
      omega

theorem layout_ne_nil (parity : ℤ) {r : List R} (hr : r ≠ []) : layout parity r ≠ [] := by
  have hpos := List.length_pos_iff.mpr hr
  refine List.ne_nil_of_length_pos ?_
  rw [layout_length]
  split_ifs <;> omega

/-- `2d - 1 + par` phases for `par ∈ {0, 1}`, the parities `jacSpec` is run with -/
theorem layout_length_par (par : ℕ) (hpar : par ≤ 1) (r : List R) (hr : r ≠ []) :
    (layout (par : ℤ) r).length + 1 = 2 * r.length + par := by
  have hpos : 0 < r.length := List.length_pos_iff.mpr hr
  rw [layout_length]
  split_ifs <;> omega

theorem layout_odd_set (r : List R) (j : ℕ) (hj : j < r.length) (t : R) :
    layout 1 (r.set j t)
      = ((layout 1 r).set (r.length - 1 - j) t).set (r.length + j) t := by
  simp only [layout, if_true]
  rw [set_reverse_append r r j hj, set_append_add (by rw [List.length_reverse, List.length_set])]

theorem layout_even_set_zero (parity : ℤ) (h : parity ≠ 1) (x : R) (rest : List R) (t : R) :
    layout parity ((x :: rest).set 0 t)
      = (layout parity (x :: rest)).set rest.length (two * t) := by
  simp only [layout, if_neg h, List.set_cons_zero, List.append_assoc]
  exact (set_append_add (b := [two * x] ++ rest) List.length_reverse 0 (two * t)).symm

theorem layout_even_set_succ (parity : ℤ) (h : parity ≠ 1) (x : R) (rest : List R) (j : ℕ)
    (hj : j < rest.length) (t : R) :
    layout parity ((x :: rest).set (j + 1) t)
      = ((layout parity (x :: rest)).set (rest.length - 1 - j) t).set (rest.length + 1 + j) t := by
  simp only [layout, if_neg h, List.set_cons_succ, List.append_assoc]
  rw [set_reverse_append rest _ j hj, Nat.add_assoc,
    set_append_add (by rw [List.length_reverse, List.length_set]), Nat.add_comm 1 j]
  rfl

end layout

/-! ## construction and `update_reduced_phases` -/

section proto
variable {R : Type} [Zero R] [One R] [Add R] [Mul R] [Neg R]

-- stated, like `layout_palindrome`, with all instances of the model's section
set_option linter.unusedSectionVars false in
theorem update_eq_init (s : Proto R) (r : List R) : s.update r = Proto.init r s.parity := rfl

omit [Zero R] [Neg R] in
theorem init_parity (r : List R) (p : Option ℤ) : (Proto.init r p).parity = p := by
  unfold Proto.init Proto.build
  cases p with
  | none => rfl
  | some q => by_cases h : r.isEmpty <;> simp [h]

end proto

/-! ## parity of the response -/

noncomputable def ZMat : M22 := !![1, 0; 0, -1]

theorem ZMat_conj (a b c d : ℂ) : ZMat * !![a, b; c, d] * ZMat = !![a, -b; -c, d] := by
  unfold ZMat
  rw [Matrix.mul_fin_two, Matrix.mul_fin_two]
  exact mat2_congr (by ring) (by ring) (by ring) (by ring)

theorem ZMat_mul_self : ZMat * ZMat = 1 := by
  unfold ZMat
  rw [Matrix.mul_fin_two, Matrix.one_fin_two]
  exact mat2_congr (by ring) (by ring) (by ring) (by ring)

theorem WxMat_neg (a : ℝ) : WxMat (-a) = -(ZMat * WxMat a * ZMat) := by
  unfold WxMat
  rw [ZMat_conj, neg_fin_two, neg_sq, neg_neg, Complex.ofReal_neg]

theorem ZMat_conj_PzMat (φ : ℝ) : ZMat * PzMat φ * ZMat = PzMat φ := by
  unfold PzMat
  rw [ZMat_conj, neg_zero]

theorem ZMat_conj_mul (A B : M22) :
    ZMat * A * ZMat * (ZMat * B * ZMat) = ZMat * (A * B) * ZMat := by
  calc ZMat * A * ZMat * (ZMat * B * ZMat) = ZMat * A * (ZMat * ZMat) * B * ZMat := by
        simp only [Matrix.mul_assoc]
    _ = ZMat * (A * B) * ZMat := by rw [ZMat_mul_self, Matrix.mul_one, Matrix.mul_assoc ZMat]

theorem ZMat_conj_apply00 (M : M22) : (ZMat * M * ZMat) 0 0 = M 0 0 := by
  have h := ZMat_conj (M 0 0) (M 0 1) (M 1 0) (M 1 1)
  rw [← Matrix.eta_fin_two M] at h
  rw [h]
  rfl

/-- `W(-a) = -Z W(a) Z` and `Z P(φ) Z = P(φ)`: the product at `-a` is the `Z`-conjugate of the
    product at `a`, with one sign per signal operator -/
theorem foldl_Wx_neg (a : ℝ) (φs : List ℝ) (c : ℂ) (X : M22) :
    φs.foldl (fun U ψ => U * sigDef .Wx (-a) * phaseDef .Wx ψ) (c • (ZMat * X * ZMat))
      = (c * (-1) ^ φs.length) •
          (ZMat * φs.foldl (fun U ψ => U * sigDef .Wx a * phaseDef .Wx ψ) X * ZMat) := by
  induction φs generalizing c X with
  | nil => simp
  | cons φ φs ih =>
    have step : c • (ZMat * X * ZMat) * sigDef .Wx (-a) * phaseDef .Wx φ
        = (-c) • (ZMat * (X * sigDef .Wx a * phaseDef .Wx φ) * ZMat) := by
      simp only [sigDef, phaseDef]
      rw [← ZMat_conj_mul (X * WxMat a), ← ZMat_conj_mul X, ZMat_conj_PzMat, WxMat_neg,
        Matrix.mul_neg, Matrix.neg_mul, Matrix.smul_mul, Matrix.smul_mul, neg_smul]
    rw [List.foldl_cons, step, ih, List.foldl_cons, List.length_cons]
    congr 1
    ring

theorem Udef_Wx_neg (a : ℝ) (φ : ℝ) (φs : List ℝ) :
    Udef .Wx (-a) (φ :: φs)
      = ((-1 : ℂ) ^ φs.length) • (ZMat * Udef .Wx a (φ :: φs) * ZMat) := by
  simp only [Udef]
  have h := foldl_Wx_neg a φs 1 (phaseDef .Wx φ)
  rw [one_smul, one_mul] at h
  rw [← h]
  congr 1
  exact (ZMat_conj_PzMat φ).symm

theorem respDef_neg (φs : List ℝ) (hφ : φs ≠ []) (a : ℝ) :
    respDef .Wx .z φs (-a) = (-1 : ℂ) ^ (φs.length - 1) * respDef .Wx .z φs a := by
  cases φs with
  | nil => exact absurd rfl hφ
  | cons φ φs =>
    rw [respDef_eq_brG, respDef_eq_brG, brG_z, brG_z, Udef_Wx_neg]
    simp only [List.length_cons, Nat.add_sub_cancel, Matrix.smul_apply, smul_eq_mul,
      ZMat_conj_apply00]

theorem neg_one_pow_real_cast (n : ℕ) : ((-1 : ℂ) ^ n) = (((-1 : ℝ) ^ n : ℝ) : ℂ) := by
  push_cast
  rfl

theorem respDef_neg_re (φs : List ℝ) (hφ : φs ≠ []) (a : ℝ) :
    (respDef .Wx .z φs (-a)).re = (-1 : ℝ) ^ (φs.length - 1) * (respDef .Wx .z φs a).re := by
  rw [respDef_neg φs hφ a, neg_one_pow_real_cast, Complex.re_ofReal_mul]

/-! ## transposing the product -/

theorem PzMat_transpose (φ : ℝ) : (PzMat φ)ᵀ = PzMat φ :=
  (eta_fin_two _).trans rfl

theorem WxMat_transpose (a : ℝ) : (WxMat a)ᵀ = WxMat a :=
  (eta_fin_two _).trans rfl

theorem foldl_Wx_mul (a : ℝ) (φs : List ℝ) (A X : M22) :
    φs.foldl (fun U ψ => U * sigDef .Wx a * phaseDef .Wx ψ) (A * X)
      = A * φs.foldl (fun U ψ => U * sigDef .Wx a * phaseDef .Wx ψ) X := by
  induction φs generalizing X with
  | nil => rfl
  | cons φ φs ih =>
    simp only [List.foldl_cons]
    rw [← ih]
    simp only [Matrix.mul_assoc]

theorem Udef_Wx_cons (a : ℝ) (φ ψ : ℝ) (l : List ℝ) :
    Udef .Wx a (φ :: ψ :: l) = PzMat φ * WxMat a * Udef .Wx a (ψ :: l) := by
  simp only [Udef, List.foldl_cons]
  rw [← foldl_Wx_mul]
  simp only [sigDef, phaseDef, Matrix.mul_assoc]

theorem Udef_Wx_snoc (a ψ : ℝ) {l : List ℝ} (hl : l ≠ []) :
    Udef .Wx a (l ++ [ψ]) = Udef .Wx a l * WxMat a * PzMat ψ := by
  cases l with
  | nil => exact absurd rfl hl
  | cons φ l =>
    simp only [Udef, List.cons_append, List.foldl_append, List.foldl_cons, List.foldl_nil, sigDef,
      phaseDef]

end QSP
