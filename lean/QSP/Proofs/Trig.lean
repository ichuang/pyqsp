/-
  Soundness of the rational cos / sin enclosures and of the integer-square-root enclosure
  of `QSP/Model/Trig.lean`.
-/
import QSP.Model.Trig
import QSP.Proofs.Sup
import Mathlib.Analysis.Complex.Exponential
import Mathlib.Analysis.Complex.Trigonometric
import Mathlib.Analysis.Real.Sqrt
import Mathlib.Data.Rat.Floor
import Mathlib.Tactic.Ring
import Mathlib.Tactic.Linarith
import Mathlib.Tactic.LinearCombination
import Mathlib.Tactic.Positivity
import Mathlib.Tactic.NormNum

open Complex Finset
namespace QSP

/-! ## Taylor partial sums of `exp (i x)` -/

noncomputable def expI (x : ℝ) (n : ℕ) : ℂ := ∑ m ∈ range n, ((x : ℂ) * I) ^ m / (m.factorial : ℂ)

theorem cos_sin_bound (x : ℝ) (n : ℕ) (h : 2 * |x| ≤ ((n + 1 : ℕ) : ℝ)) :
    |Real.cos x - (expI x n).re| ≤ |x| ^ n / n.factorial * 2 ∧
    |Real.sin x - (expI x n).im| ≤ |x| ^ n / n.factorial * 2 := by
  have hn : ‖(x : ℂ) * I‖ = |x| := by simp
  have hside : |x| / (n.succ : ℝ) ≤ 1 / 2 := by
    rw [div_le_iff₀ (Nat.cast_pos.2 n.succ_pos)]
    linarith
  have hb := Complex.exp_bound' (x := (x : ℂ) * I) (n := n) (by rw [hn]; exact hside)
  rw [hn] at hb
  have hre : (Complex.exp ((x : ℂ) * I)).re = Real.cos x := by
    rw [Complex.exp_mul_I]; simp [← Complex.ofReal_cos, ← Complex.ofReal_sin]
  have him : (Complex.exp ((x : ℂ) * I)).im = Real.sin x := by
    rw [Complex.exp_mul_I]; simp [← Complex.ofReal_cos, ← Complex.ofReal_sin]
  constructor
  · calc |Real.cos x - (expI x n).re| = |(Complex.exp ((x : ℂ) * I) - expI x n).re| := by
          rw [Complex.sub_re, hre]
      _ ≤ ‖Complex.exp ((x : ℂ) * I) - expI x n‖ := Complex.abs_re_le_norm _
      _ ≤ _ := hb
  · calc |Real.sin x - (expI x n).im| = |(Complex.exp ((x : ℂ) * I) - expI x n).im| := by
          rw [Complex.sub_im, him]
      _ ≤ ‖Complex.exp ((x : ℂ) * I) - expI x n‖ := Complex.abs_im_le_norm _
      _ ≤ _ := hb

theorem expIQ_spec (x : ℚ) (n : ℕ) :
    (((expIQ x n).1 : ℝ) : ℂ) + ((expIQ x n).2.1 : ℝ) * I
        = (((x : ℝ) : ℂ) * I) ^ n / (n.factorial : ℂ) ∧
    (((expIQ x n).2.2.1 : ℝ) : ℂ) + ((expIQ x n).2.2.2 : ℝ) * I = expI (x : ℝ) n := by
  induction n with
  | zero => simp [expIQ, expI]
  | succ n ih =>
    obtain ⟨h1, h2⟩ := ih
    constructor
    · -- the next term is the term times `i x / (n + 1)`
      rw [pow_succ, Nat.factorial_succ, Nat.cast_mul, mul_comm ((n + 1 : ℕ) : ℂ), mul_div_mul_comm,
        ← h1]
      simp only [expIQ]
      push_cast
      linear_combination (-((expIQ x n).2.1 * x / (n + 1) : ℂ)) * Complex.I_sq
    · rw [expI, sum_range_succ, ← expI, ← h2, ← h1]
      simp only [expIQ]
      push_cast
      ring

theorem cosT_sinT_bound (x : ℚ) (n : ℕ) (h : 2 * |(x : ℝ)| ≤ ((n + 1 : ℕ) : ℝ)) :
    |Real.cos x - (cosT x n : ℝ)| ≤ |(x : ℝ)| ^ n / n.factorial * 2 ∧
    |Real.sin x - (sinT x n : ℝ)| ≤ |(x : ℝ)| ^ n / n.factorial * 2 := by
  have hs := (expIQ_spec x n).2
  have hre : (expI (x : ℝ) n).re = (cosT x n : ℝ) := by rw [← hs]; simp [cosT]
  have him : (expI (x : ℝ) n).im = (sinT x n : ℝ) := by rw [← hs]; simp [sinT]
  have := cos_sin_bound (x : ℝ) n h
  rwa [hre, him] at this

/-! ## the remainder bound -/

theorem factQ_eq (n : ℕ) : factQ n = (n.factorial : ℚ) := by
  induction n with
  | zero => simp [factQ]
  | succ n ih =>
    simp only [factQ, ih, Nat.factorial_succ]
    push_cast
    ring

theorem trigRem_cast (x : ℚ) (n : ℕ) :
    ((trigRem x n : ℚ) : ℝ) = |(x : ℝ)| ^ n / n.factorial * 2 := by
  simp only [trigRem, qabs_eq, factQ_eq]
  push_cast
  ring

theorem trigRem_nonneg (x : ℚ) (n : ℕ) : 0 ≤ trigRem x n := by
  simp only [trigRem, qabs_eq, factQ_eq]; positivity

/-! ## rounding -/

theorem roundBits_err (q : ℚ) (b : ℕ) :
    0 ≤ q - roundBits q b ∧ q - roundBits q b ≤ 1 / 2 ^ b := by
  have hp : (0 : ℚ) < 2 ^ b := by positivity
  have hfl : (q * (2 : ℚ) ^ b).floor = ⌊q * (2 : ℚ) ^ b⌋ := rfl
  have h1 : ((⌊q * (2 : ℚ) ^ b⌋ : ℤ) : ℚ) ≤ q * 2 ^ b := Int.floor_le _
  have h2 : q * 2 ^ b < ((⌊q * (2 : ℚ) ^ b⌋ : ℤ) : ℚ) + 1 := Int.lt_floor_add_one _
  simp only [roundBits, hfl]
  constructor
  · rw [sub_nonneg, div_le_iff₀ hp]; exact h1
  · rw [sub_le_iff_le_add, ← add_div, le_div_iff₀ hp]; linarith

theorem roundBits_err_real (q : ℚ) (b : ℕ) :
    |((q : ℚ) : ℝ) - ((roundBits q b : ℚ) : ℝ)| ≤ 1 / 2 ^ b := by
  obtain ⟨h1, h2⟩ := roundBits_err q b
  have h1' : (0 : ℝ) ≤ ((q - roundBits q b : ℚ) : ℝ) := by exact_mod_cast h1
  have h2' : ((q - roundBits q b : ℚ) : ℝ) ≤ ((1 / 2 ^ b : ℚ) : ℝ) := by exact_mod_cast h2
  push_cast at h1' h2'
  rw [abs_of_nonneg h1']; exact h2'

/-! ## the enclosure -/

theorem trigEncl_delta_nonneg (x : ℚ) (b : ℕ) : 0 ≤ (trigEncl x b).δ := by
  unfold trigEncl
  simp only []
  split
  · exact add_nonneg (trigRem_nonneg x _) (by positivity)
  · exact zero_le_one

theorem trigEncl_sound (x : ℚ) (b : ℕ) :
    |Real.cos (x : ℝ) - ((trigEncl x b).c : ℝ)| ≤ ((trigEncl x b).δ : ℝ) ∧
    |Real.sin (x : ℝ) - ((trigEncl x b).s : ℝ)| ≤ ((trigEncl x b).δ : ℝ) := by
  unfold trigEncl
  simp only []
  -- any number of terms will do: the test `2 |x| ≤ n + 1` below is all the bound needs
  generalize trigTerms x b _ _ = n
  split
  · rename_i hc
    have hside : 2 * |(x : ℝ)| ≤ ((n + 1 : ℕ) : ℝ) := by
      rw [qabs_eq] at hc
      exact_mod_cast hc
    obtain ⟨hcos, hsin⟩ := cosT_sinT_bound x n hside
    rw [← trigRem_cast] at hcos hsin
    simp only []
    push_cast
    -- truncation error of the partial sum plus rounding error of the stored value
    exact ⟨(abs_sub_le _ _ _).trans (add_le_add hcos (roundBits_err_real _ b)),
      (abs_sub_le _ _ _).trans (add_le_add hsin (roundBits_err_real _ b))⟩
  · simp only [Rat.cast_zero, sub_zero, Rat.cast_one]
    exact ⟨Real.abs_cos_le_one _, Real.abs_sin_le_one _⟩

/-! ## integer square root -/

theorem sqrtLo_sound (q : ℚ) (b : ℕ) (hq : 0 ≤ q) :
    0 ≤ sqrtLo q b ∧ ((sqrtLo q b : ℚ) : ℝ) ≤ Real.sqrt (q : ℝ) ∧
      Real.sqrt (q : ℝ) ≤ ((sqrtLo q b : ℚ) : ℝ) + 1 / 2 ^ b := by
  unfold sqrtLo
  split
  · rename_i h0
    rw [le_antisymm h0 hq]
    simp
  · simp only []
    -- `N² ≤ n ≤ q 4^b < n + 1 ≤ (N + 1)²` for `n = ⌊q 4^b⌋`, `N = √n`
    rw [show (q * (4 : ℚ) ^ b).floor = ⌊q * (4 : ℚ) ^ b⌋ from rfl, Int.floor_toNat]
    set n : ℕ := ⌊q * (4 : ℚ) ^ b⌋₊
    have h1 : (n : ℚ) ≤ q * 4 ^ b := Nat.floor_le (by positivity)
    have h2 : q * 4 ^ b < (n : ℚ) + 1 := Nat.lt_floor_add_one _
    have h1r : (n : ℝ) ≤ (q : ℝ) * 4 ^ b := by exact_mod_cast h1
    have h2r : (q : ℝ) * 4 ^ b < (n : ℝ) + 1 := by exact_mod_cast h2
    have s1 : ((Nat.sqrt n : ℕ) : ℝ) ^ 2 ≤ (n : ℝ) := by exact_mod_cast Nat.sqrt_le' n
    have s2 : (n : ℝ) + 1 ≤ (((Nat.sqrt n : ℕ) : ℝ) + 1) ^ 2 := by
      exact_mod_cast Nat.succ_le_of_lt (Nat.lt_succ_sqrt' n)
    have h42 : (4 : ℝ) ^ b = (2 ^ b) ^ 2 := by rw [← pow_mul, mul_comm, pow_mul]; norm_num
    have hqr : (0 : ℝ) ≤ (q : ℝ) := by exact_mod_cast hq
    refine ⟨by positivity, ?_, ?_⟩
    · push_cast
      rw [Real.le_sqrt (by positivity) hqr, div_pow, div_le_iff₀ (by positivity), ← h42]
      linarith
    · push_cast
      rw [← add_div, Real.sqrt_le_left (by positivity), div_pow, le_div_iff₀ (by positivity),
        ← h42]
      linarith
end QSP
