/-
  The phases of a QSP element are unique up to the sign gauge (property theorems:
  `QSP/Properties/C06g.lean`).  If `angP qs = angP ps` (unit pairs, regular interior cosines of `ps`) then
  `qs_k = ε_k • ps_k` with `ε_k = ±1` and `∏ ε_k = 1`; conversely such sign flips do not change the element.
  The first pair is determined up to a sign by the peeling lemma `DS.PWin.peel` with `e = 1`; the sign is
  carried to the next pair.
-/
import QSP.Proofs.DecompRec
open LaurentPolynomial
namespace QSP
namespace DS
variable {R : Type} [CommRing R]

/-! ## scalars are central in the pair algebra -/

/-- the scalar `ε` is the element `rot (ε, 0)` -/
theorem sc_comm (ε : R) (g : P2 R) : Commute (rot (ε, 0)) g := by
  refine P2.ext ?_ ?_
  · simp only [mul_A, rot, map_zero, mul_zero, sub_zero]; ring
  · simp only [mul_B, rot, RingHom.map_zero, mul_zero, zero_mul, add_zero, zero_add, invert_C]; ring

theorem sc_mul_rot (ε : R) (p : R × R) : rot (ε, 0) * rot p = rot (ε * p.1, ε * p.2) := by
  rw [rot_mul_rot]; simp [rotMul]

theorem sc_one : rot ((1 : R), (0 : R)) = 1 := by
  refine P2.ext ?_ ?_ <;> simp [rot]

theorem sc_mul_sc (a b : R) : rot (a, (0 : R)) * rot (b, 0) = rot (a * b, 0) := by
  rw [sc_mul_rot]; simp

theorem sc_mul_angP_cons (ε : R) (c : R × R) (cs : List (R × R)) :
    rot (ε, 0) * angP (c :: cs) = angP ((ε * c.1, ε * c.2) :: cs) := by
  rw [angP, angP, ← mul_assoc, sc_mul_rot]

/-! ## the converse: sign flips scale the element by their product -/

def scalePairs (es : List R) (cs : List (R × R)) : List (R × R) :=
  List.zipWith (fun e c => (e * c.1, e * c.2)) es cs

theorem scalePairs_cons (e : R) (es : List R) (c : R × R) (cs : List (R × R)) :
    scalePairs (e :: es) (c :: cs) = (e * c.1, e * c.2) :: scalePairs es cs := rfl

theorem length_scalePairs (es : List R) (cs : List (R × R)) (h : es.length = cs.length) :
    (scalePairs es cs).length = cs.length := by
  simp [scalePairs, h]

theorem tailP_scale : ∀ (es : List R) (cs : List (R × R)), es.length = cs.length →
    tailP (scalePairs es cs) = rot (es.prod, 0) * tailP cs
  | [], [], _ => by rw [List.prod_nil, sc_one, one_mul]; rfl
  | e :: es, c :: cs, h => by
    -- `W · (e R(c)) · (∏ es · tail)`: both scalars are central (`sc_comm`) and go to the front
    rw [scalePairs_cons, tailP_cons, tailP_cons, tailP_scale es cs (Nat.succ_injective h),
      List.prod_cons, ← sc_mul_sc, ← sc_mul_rot, (sc_comm e W).symm.left_comm,
      (sc_comm es.prod _).symm.mul_mul_mul_comm]

theorem angP_scale : ∀ (es : List R) (cs : List (R × R)), es.length = cs.length →
    angP (scalePairs es cs) = rot (es.prod, 0) * angP cs
  | [], [], _ => by rw [List.prod_nil, sc_one, one_mul]; rfl
  | e :: es, c :: cs, h => by
    -- as in `tailP_scale`, without the leading `W`
    rw [scalePairs_cons, ← sc_mul_angP_cons, angP, angP, tailP_scale es cs (Nat.succ_injective h),
      List.prod_cons, ← sc_mul_sc, mul_assoc, (sc_comm es.prod (rot c)).symm.left_comm]

theorem fromAngles_scale (es : List R) (ps : List (R × R)) (n : ℕ) (hlen : es.length = ps.length)
    (hn : ps.length = n + 1) (hprod : es.prod = 1) :
    LA.fromAngles (scalePairs es ps) = LA.fromAngles ps :=
  fromAngles_congr (by rw [length_scalePairs es ps hlen, hn]) hn
    (by rw [angP_scale es ps hlen, hprod, sc_one, one_mul])

/-! ## the first pair is determined up to a sign, which is carried to the rest -/

/-- `-m .. m` is the window on which `unitary_from_angles` stores the product -/
theorem win_angP (cs : List (R × R)) (m : ℕ) (h : cs.length = m + 1) : Win m (angP cs) := by
  obtain ⟨g, -, dg, rg⟩ := fromAngles_spec cs m h
  rw [← dg, rg.pden_eq]
  exact X_win _ _ m rg.shape.2.2.1 rg.shape.2.2.2

theorem scale_of_rot_mul_W {p q s : R × R} (h : rot q * W = rot p * W * rot s) :
    q = (s.1 * p.1, s.1 * p.2) := by
  -- the coefficients of `w` in `A` and of `1/w` in `B`
  have hA := congrArg (fun g : P2 R => g.A.coeff 1) h
  have hB := congrArg (fun g : P2 R => g.B.coeff (-1)) h
  simp only [coeff_mul_rot_A, coeff_mul_rot_B, coeff_mul_W_A, coeff_mul_W_B] at hA hB
  -- the coefficients of the constants `C _` at the literals `1 - 1`, `1 + 1`, `-1 + 1`, `-1 - 1`
  simp only [rot, coeff_C, Int.reduceSub, Int.reduceAdd, Int.reduceEq, ↓reduceIte, zero_mul, sub_zero,
    zero_add] at hA hB
  exact Prod.ext (by rw [hA, mul_comm]) (by rw [hB, mul_comm])

theorem pwin_conj_rot_mul_W (q : R × R) : PWin 1 (conj (rot q * W)) := by
  rw [conj_mul, conj_rot, show conj (W : P2 R) = X [1, 0] [0, 0] 1 by
    refine P2.ext ?_ ?_ <;> simp only [conj, W, X, invert_T, denL_cons, denL_nil, RingHom.map_one,
      RingHom.map_zero, one_mul, zero_mul, add_zero, neg_zero, Nat.cast_one]]
  exact (X_pwin _ _ 1 rfl rfl).mul_rot _

/-- `δ` is the sign carried so far, `δ ε` the one carried on.  `hsq`: the only square roots of `1` are
    `±1`, as in a domain -/
theorem gauge_step (hsq : ∀ x : R, x * x = 1 → x = 1 ∨ x = -1) {p0 q0 : R × R}
    {ps qs : List (R × R)} {δ : R} (hlen : ps.length = qs.length) (hps : ps ≠ [])
    (hup : ∀ c ∈ p0 :: ps, UnitPair c) (hq0 : UnitPair q0)
    (hreg : ∀ c ∈ (p0 :: ps).tail.dropLast, ∀ x : R, x * c.1 = 0 → x = 0)
    (heq : angP (p0 :: ps) = rot (δ, 0) * angP (q0 :: qs)) :
    ∃ ε : R, (ε = 1 ∨ ε = -1) ∧ q0 = (ε * p0.1, ε * p0.2) ∧
      angP ps = rot (δ * ε, 0) * angP qs := by
  have hp0 := hup p0 (List.mem_cons_self ..)
  obtain ⟨m, hm⟩ := Nat.exists_eq_add_one_of_ne_zero (hlen ▸ (List.length_pos_iff.mpr hps).ne')
  obtain ⟨q1, qs, rfl⟩ := List.exists_cons_of_length_eq_add_one hm
  -- `u = ~(R(q0) W)` is supported on `-1, 1`, and `u · g` is `δ` times the product over the rest
  have hprod : conj (rot q0 * W) * angP (p0 :: ps) = angP ((δ * q1.1, δ * q1.2) :: qs) := by
    rw [heq, angP_cons q0 (List.cons_ne_nil q1 qs), (sc_comm δ _).symm.left_comm, ← mul_assoc (conj _),
      conj_mul_self_of_nrm (nrm_rot_mul_W hq0), one_mul, sc_mul_angP_cons]
  obtain ⟨t, ht⟩ := PWin.peel 1 (p0 :: ps) (m + 1) _ (by rw [List.length_cons, hlen, hm]) (by omega)
    hup hreg (pwin_conj_rot_mul_W q0) (by
      rw [hprod, Nat.cast_succ, Nat.cast_one, add_sub_cancel_right]
      exact win_angP _ m hm)
  rw [headP_succ, headP_zero, mul_one] at ht
  have hq : q0 = (t.1 * p0.1, t.1 * p0.2) := by
    have := congrArg conj ht
    rw [conj_conj, conj_mul, conj_conj, conj_rot] at this
    exact scale_of_rot_mul_W (s := conjPair t) this
  refine ⟨t.1, hsq _ ?_, hq, left_cancel (nrm_rot_mul_W hp0) ?_⟩
  · rw [hq] at hq0
    simp only [UnitPair] at hp0 hq0
    linear_combination hq0 - t.1 * t.1 * hp0
  · -- the sign is carried to the rest
    calc rot p0 * W * angP ps
        = rot (δ, 0) * (rot (t.1, 0) * rot p0 * W * angP (q1 :: qs)) := by
          rw [← angP_cons p0 hps, heq, angP_cons q0 (List.cons_ne_nil q1 qs), hq, ← sc_mul_rot]
      _ = rot p0 * W * (rot (δ * t.1, 0) * angP (q1 :: qs)) := by
          rw [mul_assoc (rot (t.1, 0)), mul_assoc (rot (t.1, 0)), ← mul_assoc (rot (δ, 0)), sc_mul_sc,
            (sc_comm _ _).left_comm]

/-! ## the gauge theorem -/

theorem sq_of_sign {δ : R} (h : δ = 1 ∨ δ = -1) : δ * δ = 1 := by
  rcases h with rfl | rfl <;> ring

/-- the statement the induction needs, with a sign `δ` carried along the list -/
theorem gauge_up_to_sign (hsq : ∀ x : R, x * x = 1 → x = 1 ∨ x = -1) :
    ∀ (ps qs : List (R × R)) (δ : R), ps.length = qs.length → ps ≠ [] → (δ = 1 ∨ δ = -1) →
      (∀ c ∈ ps, UnitPair c) → (∀ c ∈ qs, UnitPair c) →
      (∀ c ∈ ps.tail.dropLast, ∀ x : R, x * c.1 = 0 → x = 0) →
      angP ps = rot (δ, 0) * angP qs →
      ∃ es : List R, es.length = ps.length ∧ (∀ e ∈ es, e = 1 ∨ e = -1) ∧ es.prod = δ ∧
        qs = scalePairs es ps := by
  intro ps
  induction ps with
  | nil => intro qs δ _ h; exact absurd rfl h
  | cons p0 ps ih =>
    intro qs δ hlen _ hδ hup huq hreg heq
    obtain ⟨q0, qs, rfl⟩ := List.exists_cons_of_length_eq_add_one hlen.symm
    have hlen' : ps.length = qs.length := Nat.succ_injective hlen
    obtain ⟨hq0, huq'⟩ := List.forall_mem_cons.mp huq
    by_cases hps : ps = []
    · -- a single pair: `p0 = δ q0`, and `δ² = 1`
      subst hps
      obtain rfl := List.length_eq_zero_iff.mp hlen'.symm
      rw [angP, angP, tailP_nil, mul_one, mul_one, sc_mul_rot] at heq
      have := congrArg ev1 heq
      rw [ev1_rot, ev1_rot] at this
      subst this
      refine ⟨[δ], rfl, List.forall_mem_singleton.mpr hδ, List.prod_singleton, ?_⟩
      rw [scalePairs_cons, ← mul_assoc, ← mul_assoc, sq_of_sign hδ, one_mul, one_mul]
      rfl
    · obtain ⟨ε, hε, hq, hnext⟩ := gauge_step hsq hlen' hps hup hq0 hreg heq
      have hδε : (δ * ε) * (δ * ε) = 1 := by
        rw [mul_mul_mul_comm, sq_of_sign hδ, sq_of_sign hε, mul_one]
      obtain ⟨es, hl, hs, hpr, hqs⟩ := ih qs (δ * ε) hlen' hps (hsq _ hδε)
        (List.forall_mem_cons.mp hup).2 huq' (fun c hc => hreg c (mem_interior_cons hc)) hnext
      refine ⟨ε :: es, by rw [List.length_cons, hl, List.length_cons],
        List.forall_mem_cons.mpr ⟨hε, hs⟩, ?_, by rw [hq, hqs, scalePairs_cons]⟩
      rw [List.prod_cons, hpr, mul_left_comm, sq_of_sign hε, mul_one]

theorem gauge (hsq : ∀ x : R, x * x = 1 → x = 1 ∨ x = -1) {ps qs : List (R × R)}
    (hlen : ps.length = qs.length) (hne : ps ≠ [])
    (hup : ∀ c ∈ ps, UnitPair c) (huq : ∀ c ∈ qs, UnitPair c)
    (hreg : ∀ c ∈ ps.tail.dropLast, ∀ x : R, x * c.1 = 0 → x = 0)
    (heq : angP qs = angP ps) :
    ∃ es : List R, es.length = ps.length ∧ (∀ e ∈ es, e = 1 ∨ e = -1) ∧ es.prod = 1 ∧
      qs = scalePairs es ps :=
  gauge_up_to_sign hsq ps qs 1 hlen hne (Or.inl rfl) hup huq hreg (by rw [heq, sc_one, one_mul])

/-! ## the model level -/

theorem fromAngles_gauge (hsq : ∀ x : R, x * x = 1 → x = 1 ∨ x = -1) {ps qs : List (R × R)} {n : ℕ}
    (hlp : ps.length = n + 1) (hlq : qs.length = n + 1)
    (hup : ∀ c ∈ ps, UnitPair c) (huq : ∀ c ∈ qs, UnitPair c)
    (hreg : ∀ c ∈ ps.tail.dropLast, ∀ x : R, x * c.1 = 0 → x = 0) {gp gq : LA R}
    (hp : LA.fromAngles ps = .ok gp) (hq : LA.fromAngles qs = .ok gq)
    (hI : den gq.I = den gp.I) (hX : den gq.X = den gp.X) :
    ∃ es : List R, es.length = n + 1 ∧ (∀ e ∈ es, e = 1 ∨ e = -1) ∧ es.prod = 1 ∧
      qs = scalePairs es ps := by
  have e : angP qs = angP ps := by
    rw [← (fromAngles_ok hlp hp).1, ← (fromAngles_ok hlq hq).1]; exact P2.ext hI hX
  obtain ⟨es, h1, h2, h3, h4⟩ := gauge hsq (hlp.trans hlq.symm)
    (List.ne_nil_of_length_eq_add_one hlp) hup huq hreg e
  exact ⟨es, by rw [h1, hlp], h2, h3, h4⟩

theorem exact_gauge (hsq : ∀ x : R, x * x = 1 → x = 1 ∨ x = -1) {g : LA R} {out : List (R × R)}
    (h : ExactAngSeq g out) {n : ℕ} {ps : List (R × R)} (hlen : ps.length = n + 1)
    (hunit : ∀ c ∈ ps, UnitPair c)
    (hreg : ∀ c ∈ ps.tail.dropLast, ∀ x : R, x * c.1 = 0 → x = 0)
    (hg : LA.fromAngles ps = .ok g) (hout : ∀ c ∈ out, UnitPair c) :
    ∃ es : List R, es.length = n + 1 ∧ (∀ e ∈ es, e = 1 ∨ e = -1) ∧ es.prod = 1 ∧
      out = scalePairs es ps := by
  obtain ⟨ho, hl⟩ := exact_sound h hlen hunit hreg hg
  exact fromAngles_gauge hsq hlen hl hunit hout hreg hg ho rfl rfl

end DS
end QSP
