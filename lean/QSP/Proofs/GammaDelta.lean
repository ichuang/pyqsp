/-
  Fixed-point search (property C18b), the `gamma` / `delta` clause of `phases.py :: FPSearch.generate`:

      gamma = 1 / np.cosh((1 / L) * np.arccosh(1 / delta))        -- "T_{1/L}(1/delta)"

  `gammaOf δ L` is that expression over the reals (Mathlib's `Real.cosh`, `Real.arcosh`).
  `T_L(1 / gammaOf δ L) = 1 / δ` for `0 < δ ≤ 1`, `L ≥ 1`, and `T_L` is injective on `[1, ∞)`, so
  `gammaOf δ L` is the ONLY `γ ∈ (0, 1]` with `T_L(1/γ) = 1/δ`: passing `gamma` directly is the same
  as passing the `delta` with `1/δ = T_L(1/γ)`.  The success-probability expression certified by
  `validFP` (in terms of `x = 1/γ`) is the property's `1 - δ² T_L(T_{1/L}(1/δ) √(1-λ))²`.
-/
import Mathlib.Analysis.SpecialFunctions.Trigonometric.Chebyshev.RootsExtrema

open Polynomial.Chebyshev
namespace QSP

/-- `T_{1/L}(y) = cosh(arcosh(y) / L)` — the code's `np.cosh((1 / L) * np.arccosh(y))` -/
noncomputable def chebInvL (y : ℝ) (L : ℕ) : ℝ := Real.cosh ((1 / (L : ℝ)) * Real.arcosh y)

/-- the code's `gamma = 1 / np.cosh((1 / L) * np.arccosh(1 / delta))` -/
noncomputable def gammaOf (δ : ℝ) (L : ℕ) : ℝ := 1 / chebInvL (1 / δ) L

theorem one_le_chebInvL (y : ℝ) (L : ℕ) : 1 ≤ chebInvL y L := Real.one_le_cosh _

theorem eval_T_chebInvL {y : ℝ} (hy : 1 ≤ y) {L : ℕ} (hL : L ≠ 0) :
    (T ℝ (L : ℤ)).eval (chebInvL y L) = y := by
  rw [chebInvL, T_real_cosh, Int.cast_natCast, ← mul_assoc, mul_one_div_cancel, one_mul,
    Real.cosh_arcosh hy]
  exact_mod_cast hL

theorem eval_T_injOn {n : ℕ} (hn : n ≠ 0) {x y : ℝ} (hx : 1 ≤ x) (hy : 1 ≤ y)
    (h : (T ℝ (n : ℤ)).eval x = (T ℝ (n : ℤ)).eval y) : x = y := by
  have hn0 : (0 : ℝ) ≤ ((n : ℤ) : ℝ) := by exact_mod_cast n.zero_le
  have hne : ((n : ℤ) : ℝ) ≠ 0 := by exact_mod_cast hn
  -- on `[1, ∞)`, `T_n z = cosh (n arcosh z)`, and `cosh` is injective on `[0, ∞)`
  rw [← Real.cosh_arcosh hx, ← Real.cosh_arcosh hy, T_real_cosh, T_real_cosh] at h
  have h1 := Real.cosh_injOn (mul_nonneg hn0 (Real.arcosh_nonneg hx))
    (mul_nonneg hn0 (Real.arcosh_nonneg hy)) h
  rw [← Real.cosh_arcosh hx, ← Real.cosh_arcosh hy, mul_left_cancel₀ hne h1]

theorem gammaOf_pos (δ : ℝ) (L : ℕ) : 0 < gammaOf δ L := by
  have := one_le_chebInvL (1 / δ) L
  unfold gammaOf; positivity

theorem gammaOf_le_one (δ : ℝ) (L : ℕ) : gammaOf δ L ≤ 1 := by
  have h := one_le_chebInvL (1 / δ) L
  unfold gammaOf
  rw [div_le_one (by linarith)]; exact h

theorem one_div_gammaOf (δ : ℝ) (L : ℕ) : 1 / gammaOf δ L = chebInvL (1 / δ) L := by
  unfold gammaOf; rw [one_div_one_div]

theorem eval_T_one_div_gammaOf {δ : ℝ} (h0 : 0 < δ) (h1 : δ ≤ 1) {L : ℕ} (hL : L ≠ 0) :
    (T ℝ (L : ℤ)).eval (1 / gammaOf δ L) = 1 / δ := by
  rw [one_div_gammaOf]
  exact eval_T_chebInvL (one_le_one_div h0 h1) hL

theorem gamma_delta_iff {δ γ : ℝ} (h0 : 0 < δ) (h1 : δ ≤ 1) (g0 : 0 < γ) (g1 : γ ≤ 1)
    {L : ℕ} (hL : L ≠ 0) :
    (T ℝ (L : ℤ)).eval (1 / γ) = 1 / δ ↔ γ = gammaOf δ L := by
  constructor
  · intro h
    have hx : (1 : ℝ) ≤ 1 / γ := one_le_one_div g0 g1
    have hy : (1 : ℝ) ≤ 1 / gammaOf δ L := by
      rw [one_div_gammaOf]; exact one_le_chebInvL _ _
    have := eval_T_injOn hL hx hy (by rw [h, eval_T_one_div_gammaOf h0 h1 hL])
    rw [← one_div_one_div γ, this, one_div_one_div]
  · rintro rfl; exact eval_T_one_div_gammaOf h0 h1 hL

theorem delta_of_gamma {γ : ℝ} (g0 : 0 < γ) (g1 : γ ≤ 1) {L : ℕ} (hL : L ≠ 0) :
    let δ := 1 / (T ℝ (L : ℤ)).eval (1 / γ)
    0 < δ ∧ δ ≤ 1 ∧ gammaOf δ L = γ := by
  intro δ
  have hT := one_le_eval_T_real (L : ℤ) (one_le_one_div g0 g1)
  have hδ0 : 0 < δ := one_div_pos.mpr (zero_lt_one.trans_le hT)
  have hδ1 : δ ≤ 1 := (div_le_one (zero_lt_one.trans_le hT)).mpr hT
  exact ⟨hδ0, hδ1, ((gamma_delta_iff hδ0 hδ1 g0 g1 hL).mp (one_div_one_div _).symm).symm⟩

/-- the certified expression (in `x = 1/γ ≥ 1`, `δ = 1/T_L(x)`) is the property's
    `1 - δ² T_L(T_{1/L}(1/δ) s)²` -/
theorem ylc_form {x : ℝ} (hx : 1 ≤ x) {L : ℕ} (hL : L ≠ 0) (s : ℝ) :
    let δ := 1 / (T ℝ (L : ℤ)).eval x
    1 - ((T ℝ (L : ℤ)).eval (x * s)) ^ 2 / ((T ℝ (L : ℤ)).eval x) ^ 2
      = 1 - δ ^ 2 * ((T ℝ (L : ℤ)).eval (chebInvL (1 / δ) L * s)) ^ 2 := by
  intro δ
  have hT := one_le_eval_T_real (L : ℤ) hx
  have h1 : 1 / δ = (T ℝ (L : ℤ)).eval x := one_div_one_div _
  have h2 : chebInvL (1 / δ) L = x := by
    apply eval_T_injOn hL (one_le_chebInvL _ _) hx
    rw [eval_T_chebInvL (by rw [h1]; exact hT) hL, h1]
  rw [h2, one_div_pow, one_div_mul_eq_div]

/-- the width `λ ≥ 1 - γ²` of the fixed-point search in terms of `x = 1/γ` -/
theorem width_iff {γ lam : ℝ} (g0 : 0 < γ) :
    (1 / γ) ^ 2 * (1 - lam) ≤ 1 ↔ 1 - γ ^ 2 ≤ lam := by
  rw [one_div, inv_pow, inv_mul_le_iff₀ (pow_pos g0 2), mul_one, sub_le_comm]

end QSP
