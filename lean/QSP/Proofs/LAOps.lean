/-
  The operations of the pair model `LA R` of `pyqsp/LPoly.py :: class LAlg`, component by component:
  what a returned value denotes (`LA.*_ok`), the invariant under which no operation fails, with the
  stored windows of the results (`LA.NZ`, `LA.On`), and that `~(~g)` is `g` as a stored value.
-/
import QSP.Proofs.LPoly
import QSP.Model.LAlg
open LaurentPolynomial
namespace QSP
variable {R : Type} [CommRing R]

def LA.WF (g : LA R) : Prop := g.I.WF ∧ g.X.WF

/-! ### the constructor -/

omit [CommRing R] in
theorem mk'_ok {i x : LP R} {r : LA R} (h : LA.mk' i x = .ok r) : r = ⟨i, x⟩ := by
  unfold LA.mk' at h
  split at h
  · cases h; rfl
  · cases h

omit [CommRing R] in
theorem mk'_of_parity {i x : LP R} (h : i.parity = x.parity) : LA.mk' i x = .ok ⟨i, x⟩ := by
  simp [LA.mk', LP.isconsistent, h]

/-! ### the operations at the level of the two components -/

theorem den_mk'_ok {i x : LP R} {r : LA R} {a b : R[T;T⁻¹]} (e : LA.mk' i x = .ok r)
    (hi : den i = a ∧ i.WF) (hx : den x = b ∧ x.WF) : den r.I = a ∧ den r.X = b ∧ r.WF := by
  cases mk'_ok e
  exact ⟨hi.1, hx.1, hi.2, hx.2⟩

theorem LA.mul_ok {g h r : LA R} (hg : g.WF) (hh : h.WF) (e : g.mul h = .ok r) :
    den r.I = den g.I * den h.I - den g.X * invert (den h.X) ∧
    den r.X = den g.I * den h.X + den g.X * invert (den h.I) ∧ r.WF := by
  unfold LA.mul at e
  obtain ⟨i, hi, e⟩ := bind_ok e
  obtain ⟨x, hx, e⟩ := bind_ok e
  have iX := den_inv h.X hh.2
  have iI := den_inv h.I hh.1
  have m1 := den_mul g.I h.I hg.1 hh.1
  have m2 := den_mul g.X h.X.inv hg.2 iX.2
  have m3 := den_mul g.I h.X hg.1 hh.2
  have m4 := den_mul g.X h.I.inv hg.2 iI.2
  have s := sub_ok m1.2 m2.2 hi
  have a := add_ok m3.2 m4.2 hx
  exact den_mk'_ok e ⟨by rw [s.1, m1.1, m2.1, iX.1], s.2⟩ ⟨by rw [a.1, m3.1, m4.1, iI.1], a.2⟩

theorem LA.mulR_ok {g r : LA R} {p : LP R} (hg : g.WF) (hp : p.WF) (e : g.mulR p = .ok r) :
    den r.I = den g.I * den p ∧ den r.X = den g.X * invert (den p) ∧ r.WF := by
  have i := den_inv p hp
  exact den_mk'_ok e (den_mul g.I p hg.1 hp) (i.1 ▸ den_mul g.X p.inv hg.2 i.2)

theorem LA.mulL_ok {g r : LA R} {p : LP R} (hg : g.WF) (hp : p.WF) (e : LA.mulL p g = .ok r) :
    den r.I = den p * den g.I ∧ den r.X = den p * den g.X ∧ r.WF :=
  den_mk'_ok e (den_mul p g.I hp hg.1) (den_mul p g.X hp hg.2)

theorem LA.smul_ok {g r : LA R} {c : R} (hg : g.WF) (e : LA.smul c g = .ok r) :
    den r.I = C c * den g.I ∧ den r.X = C c * den g.X ∧ r.WF :=
  den_mk'_ok e (den_smul c g.I hg.1) (den_smul c g.X hg.2)

theorem LA.add_ok {g h r : LA R} (hg : g.WF) (hh : h.WF) (e : g.add h = .ok r) :
    den r.I = den g.I + den h.I ∧ den r.X = den g.X + den h.X ∧ r.WF := by
  unfold LA.add at e
  obtain ⟨i, hi, e⟩ := bind_ok e
  obtain ⟨x, hx, e⟩ := bind_ok e
  exact den_mk'_ok e (QSP.add_ok hg.1 hh.1 hi) (QSP.add_ok hg.2 hh.2 hx)

theorem LA.addP_ok {g r : LA R} {p : LP R} (hg : g.WF) (hp : p.WF) (e : g.addP p = .ok r) :
    den r.I = den g.I + den p ∧ den r.X = den g.X ∧ r.WF := by
  unfold LA.addP at e
  obtain ⟨i, hi, e⟩ := bind_ok e
  exact den_mk'_ok e (QSP.add_ok hg.1 hp hi) ⟨rfl, hg.2⟩

theorem LA.neg_ok {g r : LA R} (hg : g.WF) (e : g.neg = .ok r) :
    den r.I = - den g.I ∧ den r.X = - den g.X ∧ r.WF :=
  den_mk'_ok e (den_neg g.I hg.1) (den_neg g.X hg.2)

theorem LA.sub_ok {g h r : LA R} (hg : g.WF) (hh : h.WF) (e : g.sub h = .ok r) :
    den r.I = den g.I - den h.I ∧ den r.X = den g.X - den h.X ∧ r.WF := by
  unfold LA.sub at e
  obtain ⟨nh, hn, e⟩ := bind_ok e
  have n := LA.neg_ok hh hn
  have a := LA.add_ok hg n.2.2 e
  exact ⟨by rw [a.1, n.1, sub_eq_add_neg], by rw [a.2.1, n.2.1, sub_eq_add_neg], a.2.2⟩

theorem LA.conj_ok {g r : LA R} (hg : g.WF) (e : g.conj = .ok r) :
    den r.I = invert (den g.I) ∧ den r.X = - den g.X ∧ r.WF :=
  den_mk'_ok e (den_inv g.I hg.1) (den_neg g.X hg.2)

theorem pnorm_eq {g : LA R} {pn : LP R} (hg : g.WF) (e : g.pnorm = .ok pn) :
    den pn = den g.I * invert (den g.I) + den g.X * invert (den g.X) ∧ pn.WF := by
  unfold LA.pnorm at e
  obtain ⟨c, hc, e⟩ := bind_ok e
  obtain ⟨m, hm, e⟩ := bind_ok e
  cases e
  have c1 := LA.conj_ok hg hc
  have m1 := LA.mul_ok hg c1.2.2 hm
  refine ⟨?_, m1.2.2.1⟩
  rw [m1.1, c1.1, c1.2.1, invert_neg]
  ring

/-! ### the non-zero-flag invariant -/

/-- well-formed and not flagged as zero -/
def LP.NZ (p : LP R) : Prop := p.WF ∧ p.iszero = false

/-- both components `LP.NZ`, of one parity: the elements on which no operation of `LAlg` fails -/
def LA.NZ (g : LA R) : Prop := g.I.NZ ∧ g.X.NZ ∧ g.I.parity = g.X.parity

theorem LA.NZ.wf {g : LA R} (h : g.NZ) : g.WF := ⟨h.1.1, h.2.1.1⟩

theorem consistent_of_NZ {g : LA R} (h : g.NZ) : g.consistent = true := by
  simp [LA.consistent, LP.isconsistent, h.2.2]

theorem LP.NZ.on {p : LP R} (h : p.NZ) : p.On p.dmin p.dmax := .of h.1.1 h.2

theorem LP.On.NZ {p : LP R} {a b : ℤ} (h : p.On a b) : p.NZ := ⟨h.wf, h.nz⟩

theorem NZ_mk' {cs : List R} (h : cs ≠ []) (d : ℤ) : (LP.mk' cs d).NZ := by
  rw [LP.mk'_of_ne h]; exact ⟨⟨h, fun z => Bool.noConfusion z⟩, rfl⟩

theorem inv_NZ {p : LP R} (hp : p.NZ) : p.inv.NZ ∧ p.inv.parity = p.parity :=
  ⟨hp.on.inv.NZ, (LRange.inv_flags p hp.1).2⟩

theorem add_NZ {p q : LP R} (hp : p.NZ) (hq : q.NZ) (hpar : p.parity = q.parity) :
    ∃ r, p.add q = .ok r ∧ r.NZ ∧ r.parity = p.parity := by
  obtain ⟨r, e, hr⟩ := hp.on.add hq.on hpar
  exact ⟨r, e, hr.NZ, hr.parity.trans (min_emod_two hpar)⟩

theorem mul_parity {p q : LP R} (hp : p.NZ) (hq : q.NZ) :
    (p.mul q).parity = (p.dmin + q.dmin) % 2 := (hp.on.mul hq.on).parity

/-! ### stored windows of the results of `LA.mul`, `LA.mulR`, `LA.conj` -/

theorem emod_add_neg {a a' c d' : ℤ} (h : a % 2 = c % 2) (h' : a' % 2 = d' % 2) :
    (a + a') % 2 = (c + -d') % 2 := by
  rw [Int.add_emod, Int.add_emod c, Int.neg_emod_two, h, h']

/-- `IPoly` is stored on `a .. b`, `XPoly` on `c .. d`, both not flagged zero, and the two windows have one
    parity -/
structure LA.On (g : LA R) (a b c d : ℤ) : Prop where
  I : g.I.On a b
  X : g.X.On c d
  par : a % 2 = c % 2

namespace LA.On
variable {g h : LA R} {p : LP R} {a b c d a' b' c' d' : ℤ}

theorem nz (hg : g.On a b c d) : g.NZ :=
  ⟨hg.I.NZ, hg.X.NZ, by rw [hg.I.parity, hg.X.parity, hg.par]⟩

theorem of_nz (hg : g.NZ) : g.On g.I.dmin g.I.dmax g.X.dmin g.X.dmax := ⟨hg.1.on, hg.2.1.on, hg.2.2⟩

/-- the four products inside `LA.mul` have one parity, so the difference and the sum are defined; each
    component of the result is stored on the union of the windows of its two products -/
theorem mul (hg : g.On a b c d) (hh : h.On a' b' c' d') :
    ∃ r, g.mul h = .ok r ∧ r.On (min (a + a') (c + -d')) (max (b + b') (d + -c'))
      (min (a + c') (c + -b')) (max (b + d') (d + -a')) := by
  obtain ⟨gI, gX, hg⟩ := hg
  obtain ⟨hI, hX, hh⟩ := hh
  have p1 := emod_add_neg hg (hh.trans hX.emod.symm)
  have p2 := emod_add_neg hg (hh.symm.trans hI.emod.symm)
  obtain ⟨i, hi, iOn⟩ := (gI.mul hI).sub (gX.mul hX.inv) p1
  obtain ⟨x, hx, xOn⟩ := (gI.mul hX).add (gX.mul hI.inv) p2
  have hp : min (a + a') (c + -d') % 2 = min (a + c') (c + -b') % 2 := by
    rw [min_emod_two p1, min_emod_two p2, Int.add_emod, hh, ← Int.add_emod]
  refine ⟨⟨i, x⟩, ?_, iOn, xOn, hp⟩
  rw [LA.mul, hi, hx]
  exact mk'_of_parity (by rw [iOn.parity, xOn.parity, hp])

theorem mulR (hg : g.On a b c d) (hp : p.On a' b') :
    ∃ r, g.mulR p = .ok r ∧ r.On (a + a') (b + b') (c + -b') (d + -a') := by
  have hr : (⟨g.I.mul p, g.X.mul p.inv⟩ : LA R).On (a + a') (b + b') (c + -b') (d + -a') :=
    ⟨hg.I.mul hp, hg.X.mul hp.inv, emod_add_neg hg.par hp.emod.symm⟩
  exact ⟨_, mk'_of_parity hr.nz.2.2, hr⟩

theorem conj (hg : g.On a b c d) : ∃ r, g.conj = .ok r ∧ r.On (-b) (-a) c d := by
  have hr : (⟨g.I.inv, g.X.neg⟩ : LA R).On (-b) (-a) c d :=
    ⟨hg.I.inv, hg.X.neg, by rw [Int.neg_emod_two, hg.I.emod, hg.par]⟩
  exact ⟨_, mk'_of_parity hr.nz.2.2, hr⟩

theorem ext (hg : g.On a b c d) (hh : h.On a b c d) (eI : den g.I = den h.I)
    (eX : den g.X = den h.X) : g = h := by
  calc g = ⟨g.I, g.X⟩ := rfl
    _ = ⟨h.I, h.X⟩ := by rw [hg.I.ext hh.I eI, hg.X.ext hh.X eX]

theorem of_lengths {l m : List R} {n : ℕ} (hl : l.length = n + 1) (hm : m.length = n + 1) :
    (⟨⟨l, -(n : ℤ), false⟩, ⟨m, -(n : ℤ), false⟩⟩ : LA R).On (-(n : ℤ)) n (-(n : ℤ)) n := by
  have hI := LP.On.of_length hl (-(n : ℤ))
  have hX := LP.On.of_length hm (-(n : ℤ))
  rw [show -(n : ℤ) + 2 * n = n by ring] at hI hX
  exact ⟨hI, hX, rfl⟩

end LA.On

/-! ### on non-zero-flagged values no operation of the class fails -/

theorem LA.mul_NZ {g h : LA R} (hg : g.NZ) (hh : h.NZ) : ∃ r, g.mul h = .ok r ∧ r.NZ :=
  let ⟨r, e, o⟩ := (LA.On.of_nz hg).mul (.of_nz hh); ⟨r, e, o.nz⟩

theorem LA.mulR_NZ {g : LA R} {p : LP R} (hg : g.NZ) (hp : p.NZ) : ∃ r, g.mulR p = .ok r ∧ r.NZ :=
  let ⟨r, e, o⟩ := (LA.On.of_nz hg).mulR hp.on; ⟨r, e, o.nz⟩

theorem LA.mulL_NZ {g : LA R} {p : LP R} (hg : g.NZ) (hp : p.NZ) :
    ∃ r, LA.mulL p g = .ok r ∧ r.NZ := by
  obtain ⟨gI, gX, gp⟩ := hg
  have hpar : (p.mul g.I).parity = (p.mul g.X).parity := by
    change g.I.dmin % 2 = g.X.dmin % 2 at gp
    rw [(hp.on.mul gI.on).parity, (hp.on.mul gX.on).parity, Int.add_emod, gp, ← Int.add_emod]
  exact ⟨_, mk'_of_parity hpar, (hp.on.mul gI.on).NZ, (hp.on.mul gX.on).NZ, hpar⟩

theorem LA.conj_NZ {g : LA R} (hg : g.NZ) : ∃ r, g.conj = .ok r ∧ r.NZ :=
  let ⟨r, e, o⟩ := (LA.On.of_nz hg).conj; ⟨r, e, o.nz⟩

/-! ### conjugation is an involution on the representation -/

/-- pyqsp's `~(~g)` is `g` itself, not only an element of the same denotation -/
theorem LRange.conj_conj {R : Type} [Zero R] [Add R] [Mul R] [InvolutiveNeg R] (g : LA R)
    (hI : g.I.WF) (hX : g.X.WF) (hc : g.consistent = true) :
    ∃ c, g.conj = .ok c ∧ c.conj = .ok g := by
  obtain ⟨i1, i2⟩ := LRange.inv_flags g.I hI
  obtain ⟨n1, n2⟩ := LRange.neg_flags g.X hX
  have hcons : LP.isconsistent g.I.inv g.X.neg = true := by
    rw [LP.isconsistent, i1, i2, n1, n2]; exact hc
  refine ⟨⟨g.I.inv, g.X.neg⟩, if_pos hcons, ?_⟩
  rw [LA.conj, LRange.inv_inv g.I hI, LRange.neg_neg g.X hX]
  exact if_pos hc

/-! ### constants -/

theorem den_w : den (LP.w : LP R) = T 1 := by simp [LP.w, den_mk']
theorem den_one : den (LP.one : LP R) = 1 := by simp [LP.one, den_mk']
theorem den_const (c : R) : den (LP.mk' [c] 0) = C c := by simp [den_mk']

theorem On_w : (LP.w : LP R).On 1 1 := ⟨List.cons_ne_nil _ _, rfl, rfl, rfl⟩
theorem On_one : (LP.one : LP R).On 0 0 := ⟨List.cons_ne_nil _ _, rfl, rfl, rfl⟩
theorem On_rotation (c : R × R) : (LA.rotation c).On 0 0 0 0 :=
  ⟨⟨List.cons_ne_nil _ _, rfl, rfl, rfl⟩, ⟨List.cons_ne_nil _ _, rfl, rfl, rfl⟩, rfl⟩

theorem NZ_w : (LP.w : LP R).NZ := On_w.NZ
theorem NZ_one : (LP.one : LP R).NZ := On_one.NZ
theorem NZ_rotation (c : R × R) : (LA.rotation c).NZ := (On_rotation c).nz

theorem WF_w : (LP.w : LP R).WF := On_w.wf
theorem WF_one : (LP.one : LP R).WF := On_one.wf
theorem WF_rotation (c : R × R) : (LA.rotation c).WF := (NZ_rotation c).wf

end QSP
