/-
  2×2 matrices in the normal form `!![a, b; c, d]`.  An identity between such matrices is proved by
  rewriting both sides into that form (`Matrix.mul_fin_two`, `Matrix.one_fin_two`, `Matrix.eta_fin_two`
  from Mathlib, and the lemmas below for the other operations) and comparing the four entries with
  `mat2_congr`.  This is several times cheaper to check than `ext i j; fin_cases i <;> fin_cases j <;> simp`,
  which runs `simp` with its full default set once per entry.
-/
import Mathlib.LinearAlgebra.Matrix.Notation
import Mathlib.LinearAlgebra.Matrix.ConjTranspose
open Matrix
namespace QSP

theorem mat2_congr {α : Type*} {a b c d a' b' c' d' : α} (ha : a = a') (hb : b = b') (hc : c = c')
    (hd : d = d') : !![a, b; c, d] = !![a', b'; c', d'] := by
  rw [ha, hb, hc, hd]

theorem smul_fin_two {α R : Type*} [SMul R α] (k : R) (a b c d : α) :
    k • !![a, b; c, d] = !![k • a, k • b; k • c, k • d] := by
  simp only [smul_of, smul_cons, smul_empty]

theorem add_fin_two {α : Type*} [Add α] (a b c d a' b' c' d' : α) :
    !![a, b; c, d] + !![a', b'; c', d'] = !![a + a', b + b'; c + c', d + d'] := by
  simp only [of_add_of, cons_add_cons, empty_add_empty]

theorem sub_fin_two {α : Type*} [Sub α] (a b c d a' b' c' d' : α) :
    !![a, b; c, d] - !![a', b'; c', d'] = !![a - a', b - b'; c - c', d - d'] := by
  simp only [of_sub_of, cons_sub_cons, empty_sub_empty]

theorem neg_fin_two {α : Type*} [Neg α] (a b c d : α) :
    -!![a, b; c, d] = !![-a, -b; -c, -d] := by
  simp only [neg_of, neg_cons, neg_empty]

theorem conjTranspose_fin_two {α : Type*} [Star α] (a b c d : α) :
    !![a, b; c, d]ᴴ = !![star a, star c; star b, star d] :=
  (eta_fin_two _).trans rfl

end QSP
