/-
  The truncation `LAlg.truncate(l * g, -(n - ldeg), n - ldeg)` of `decompose` returns the suffix element
  literally, with the same stored lists (`decompose_solvable_trunc`); the recursion of `angseq` run with exact
  solutions of the linear systems (`ExactAngSeq`) is derivable on every element built from unit pairs, and
  every derivation rebuilds the element.  Property theorems: `QSP/Properties/C06f.lean`.
-/
import QSP.Proofs.DecompUnique
open LaurentPolynomial
namespace QSP
variable {R : Type} [CommRing R]

/-! ## truncation to an inner window -/

namespace DS

theorem truncate_window {cs target : List R} {N m : ℕ} (hlen : cs.length = N + 1) (hm : m ≤ N)
    (hpar : (N - m) % 2 = 0) (htl : target.length = m + 1)
    (hden : denL cs (-(N : ℤ)) = denL target (-(m : ℤ))) :
    (⟨cs, -(N : ℤ), false⟩ : LP R).truncate (-(m : ℤ)) m = .ok ⟨target, -(m : ℤ), false⟩ := by
  obtain ⟨k, rfl⟩ := Nat.exists_eq_add_of_le hm
  rw [Nat.add_sub_cancel_left] at hpar
  obtain ⟨j, rfl⟩ := Nat.dvd_of_mod_eq_zero hpar
  -- `truncate_inner` gives the window and the length of the result, `truncate_of_parity` its
  -- coefficients; a list on a window is determined by these (`denL_inj`)
  have hp := LP.On.of_length hlen (-((m + 2 * j : ℕ) : ℤ))
  have ht := hp.truncate_inner j j (by
    rw [hlen, two_mul]; exact Nat.lt_succ_of_le (Nat.le_add_left _ _))
  obtain ⟨t, ht', -, hco⟩ := truncate_of_parity (⟨cs, -((m + 2 * j : ℕ) : ℤ), false⟩ : LP R) rfl
    (-(m : ℤ)) m (by
      show (-(m : ℤ) - -((m + 2 * j : ℕ) : ℤ)) % 2 = 0
      rw [Nat.cast_add, Nat.cast_mul, neg_sub_neg, add_sub_cancel_left]
      exact Int.mul_emod_right 2 j)
  have ea : -((m + 2 * j : ℕ) : ℤ) + 2 * (j : ℤ) = -(m : ℤ) := by
    rw [Nat.cast_add, Nat.cast_mul, Nat.cast_ofNat, neg_add, neg_add_cancel_right]
  have eb : -((m + 2 * j : ℕ) : ℤ) + 2 * ((m + 2 * j : ℕ) : ℤ) - 2 * (j : ℤ) = m := by
    rw [two_mul ((m + 2 * j : ℕ) : ℤ), neg_add_cancel_left, Nat.cast_add, Nat.cast_mul,
      Nat.cast_ofNat, add_sub_cancel_right]
  rw [ea, eb] at ht
  cases ok_inj ht ht'
  rw [ht]; congr 2
  refine denL_inj (d := -(m : ℤ)) ?_ ?_
  · rw [List.length_drop, List.length_take_of_le (Nat.sub_le _ _), hlen, htl, Nat.sub_sub, ← two_mul,
      Nat.add_right_comm, Nat.add_sub_cancel]
  ext k
  refine (hco k).trans ?_
  split
  · exact congrArg (fun f => f.coeff k) hden
  · rename_i hk
    rcases not_and_or.mp hk with h | h
    · exact (denL_coeff_of_lt (not_le.mp h)).symm
    · exact (denL_coeff_of_gt (by rw [htl]; push_cast; omega)).symm

theorem Rng.truncate_eq {N m : ℕ} {r s : LA R} (hr : Rng N r) (hs : Rng m s) (hm : m ≤ N)
    (hpar : (N - m) % 2 = 0) (hden : pden r = pden s) : r.truncate (-(m : ℤ)) m = .ok s := by
  obtain ⟨rI, rX, rIl, rXl⟩ := hr.shape
  obtain ⟨sI, sX, sIl, sXl⟩ := hs.shape
  have eA : den r.I = den s.I := congrArg P2.A hden
  have eB : den r.X = den s.X := congrArg P2.B hden
  rw [den, den, hr.dmin_I, hs.dmin_I] at eA
  rw [den, den, hr.dmin_X, hs.dmin_X] at eB
  have tI := truncate_window rIl hm hpar sIl eA
  have tX := truncate_window rXl hm hpar sXl eB
  rw [← rI, ← sI] at tI
  rw [← rX, ← sX] at tX
  simp only [LA.truncate, tI, tX, bind, Except.bind]
  exact mk'_of_parity hs.1.2.2

/-- `decompose_solvable` with the truncation of `decompose`: `LAlg.truncate(l * g, -(n-ldeg), n-ldeg)` is
    the suffix element, as a stored value -/
theorem decompose_solvable_trunc (ps : List (R × R)) (n ldeg : ℕ) (hlen : ps.length = n + 1)
    (hunit : ∀ c ∈ ps, c.1 ^ 2 + c.2 ^ 2 = 1) (h1 : 1 ≤ ldeg) (h2 : ldeg ≤ n) :
    ∃ g pre suf l r : LA R,
      LA.fromAngles ps = .ok g ∧ LA.fromAngles (splitPrefix ps ldeg) = .ok pre ∧
      LA.fromAngles (splitSuffix ps ldeg) = .ok suf ∧ pre.conj = .ok l ∧ l.conj = .ok pre ∧
      Rng n g ∧ Rng ldeg l ∧ Rng (n - ldeg) suf ∧
      mulVec (linSys g.I.coefs g.X.coefs ldeg).1 (vecOf l.I.coefs l.X.coefs)
        = (linSys g.I.coefs g.X.coefs ldeg).2 ∧
      l.mul g = .ok r ∧
      r.truncate (-((n - ldeg : ℕ) : ℤ)) ((n - ldeg : ℕ) : ℤ) = .ok suf := by
  have hpar : (n + ldeg - (n - ldeg)) % 2 = 0 := by omega
  obtain ⟨g, pre, suf, l, r, a1, a2, a3, a4, a5, rg, rl, rs, hsys, hmul, hden, hrI, hrX⟩ :=
    decompose_solvable ps n ldeg hlen hunit h1 h2
  refine ⟨g, pre, suf, l, r, a1, a2, a3, a4, a5, rg, rl, rs, hsys, hmul, ?_⟩
  obtain ⟨-, -, gIl, gXl⟩ := rg.shape
  obtain ⟨-, -, lIl, lXl⟩ := rl.shape
  -- the product is stored on `-(n + ldeg) .. n + ldeg`
  have rr := Rng_iff.mpr (LA.On.of_lengths (LinSys.length_prodI gIl gXl lIl lXl)
    (LinSys.length_prodX gIl gXl lIl lXl))
  rw [Nat.cast_add, ← hrI, ← hrX] at rr
  exact Rng.truncate_eq rr rs ((Nat.sub_le _ _).trans (Nat.le_add_right _ _)) hpar hden

/-! ## the recursion of `angseq` with exact solutions -/

/-- `angseq` run in exact arithmetic.  Leaf (`deg == 1`): the read-out `left_and_right_angles` is
    taken as the abstract specification "returns two pairs `[a, b]` with
    `unitary_from_angles([a, b]) = g`".  Node (`deg = n ≥ 2`, `ldeg = n // 2`): ANY exact solution
    `(lI, lX)` of `linear_system(g, ldeg)`, `l = LAlg(LPoly(lI, -ldeg), LPoly(lX, -ldeg))`, recursion
    on `~l` and on `truncate(l * g, -(n - ldeg), n - ldeg)`, glue `a[:-1] + [a[-1] ⋆ b[0]] + b[1:]` -/
inductive ExactAngSeq : LA R → List (R × R) → Prop
  | leaf (g : LA R) (a b : R × R) (h : LA.fromAngles [a, b] = .ok g) : ExactAngSeq g [a, b]
  | node (g lc r rt : LA R) (n : ℕ) (hn : 2 ≤ n) (hg : Rng n g) (lI lX : List R)
      (hlI : lI.length = n / 2 + 1) (hlX : lX.length = n / 2 + 1)
      (hsys : mulVec (linSys g.I.coefs g.X.coefs (n / 2)).1 (vecOf lI lX)
        = (linSys g.I.coefs g.X.coefs (n / 2)).2)
      (hlc : (⟨⟨lI, -((n / 2 : ℕ) : ℤ), false⟩, ⟨lX, -((n / 2 : ℕ) : ℤ), false⟩⟩ : LA R).conj = .ok lc)
      (hr : (⟨⟨lI, -((n / 2 : ℕ) : ℤ), false⟩, ⟨lX, -((n / 2 : ℕ) : ℤ), false⟩⟩ : LA R).mul g = .ok r)
      (hrt : r.truncate (-((n - n / 2 : ℕ) : ℤ)) ((n - n / 2 : ℕ) : ℤ) = .ok rt)
      (a b : List (R × R)) (ha : ExactAngSeq lc a) (hb : ExactAngSeq rt b) :
      ExactAngSeq g (mergePairs a b)

theorem exact_total : ∀ (n : ℕ) (ps : List (R × R)), 1 ≤ n → ps.length = n + 1 →
    (∀ c ∈ ps, UnitPair c) → ∃ g, LA.fromAngles ps = .ok g ∧ ExactAngSeq g ps := by
  intro n
  induction n using Nat.strong_induction_on with
  | _ n ih =>
    intro ps hn hlen hunit
    rcases Nat.eq_or_lt_of_le hn with rfl | hn2
    · obtain ⟨a, b, rfl⟩ := List.length_eq_two.mp hlen
      obtain ⟨g, hg, -, -⟩ := fromAngles_spec [a, b] 1 rfl
      exact ⟨g, hg, .leaf g a b hg⟩
    · have hl1 : 1 ≤ n / 2 := Nat.div_pos hn2 Nat.two_pos
      have hl2 : n / 2 < n := Nat.div_lt_self hn Nat.one_lt_two
      have hr1 : 1 ≤ n - n / 2 := Nat.sub_pos_of_lt hl2
      have hr2 : n - n / 2 < n := Nat.sub_lt hn hl1
      obtain ⟨g1, hg1, e1⟩ := ih (n / 2) hl2 (splitPrefix ps (n / 2)) hl1
        (length_splitPrefix hlen hl2.le) (unit_splitPrefix (n / 2) hunit)
      obtain ⟨g2, hg2, e2⟩ := ih (n - n / 2) hr2 (splitSuffix ps (n / 2)) hr1
        (length_splitSuffix hlen hl2.le) (unit_splitSuffix (n / 2) hunit)
      obtain ⟨g, pre, suf, l, r, a1, a2, a3, a4, a5, rg, rl, rs, hsys, hmul, htr⟩ :=
        decompose_solvable_trunc ps n (n / 2) hlen hunit hl1 hl2.le
      cases ok_inj a2 hg1
      cases ok_inj a3 hg2
      obtain ⟨-, -, lIl, lXl⟩ := rl.shape
      rw [rl.eq_mk] at a5 hmul
      have := ExactAngSeq.node g _ r _ n hn2 rg l.I.coefs l.X.coefs lIl lXl hsys a5 hmul htr
        _ _ e1 e2
      rw [merge_split hlen hl2.le hunit] at this
      exact ⟨g, a1, this⟩

theorem exact_sound {g : LA R} {out : List (R × R)} (h : ExactAngSeq g out) :
    ∀ {n : ℕ} {ps : List (R × R)}, ps.length = n + 1 → (∀ c ∈ ps, UnitPair c) →
      (∀ c ∈ ps.tail.dropLast, ∀ x : R, x * c.1 = 0 → x = 0) → LA.fromAngles ps = .ok g →
      LA.fromAngles out = .ok g ∧ out.length = n + 1 := by
  induction h with
  | leaf g a b hfa =>
    intro n ps hlen _ _ hg
    cases Rng_unique (fromAngles_ok hlen hg).2 (fromAngles_ok (n := 1) rfl hfa).2
    exact ⟨hfa, rfl⟩
  | node g lc r rt n hn hrng lI lX hlI hlX hsys hlc hr hrt a b _ _ iha ihb =>
    intro n' ps hlen hunit hreg hg
    have := Rng_unique (fromAngles_ok hlen hg).2 hrng
    subst this
    have hl1 : 1 ≤ n' / 2 := Nat.div_pos hn Nat.two_pos
    have hl2 : n' / 2 ≤ n' := Nat.div_le_self n' 2
    obtain ⟨g0, pre, suf, l0, r0, a1, a2, a3, a4, a5, -, rl, rs, -, hmul, htr⟩ :=
      decompose_solvable_trunc ps n' (n' / 2) hlen hunit hl1 hl2
    cases ok_inj hg a1
    -- the solution taken is the documented one, so the two sub-calls are those on `pre`, `suf`
    obtain ⟨u1, u2⟩ := decompose_unique ps n' (n' / 2) hlen hunit hreg hl1 hl2 g pre l0 hg a2 a4
      lI lX hlI hlX hsys
    rw [show (⟨⟨lI, _, false⟩, ⟨lX, _, false⟩⟩ : LA R) = l0 by rw [u1, u2, ← rl.eq_mk]] at hlc hr
    cases ok_inj hlc a5
    cases ok_inj hr hmul
    cases ok_inj hrt htr
    obtain ⟨i1, i2⟩ := interior_split hlen hl1 hl2
    have hprelen := length_splitPrefix hlen hl2
    have hsuflen := length_splitSuffix hlen hl2
    obtain ⟨fa, la⟩ := iha hprelen (unit_splitPrefix (n' / 2) hunit) (fun c hc => hreg c (i1 c hc)) a2
    obtain ⟨fb, lb⟩ := ihb hsuflen (unit_splitSuffix (n' / 2) hunit) (fun c hc => hreg c (i2 c hc)) a3
    have hml : (mergePairs a b).length = n' + 1 := by
      have := length_mergePairs a b (List.ne_nil_of_length_eq_add_one la)
        (List.ne_nil_of_length_eq_add_one lb)
      rw [la, lb, Nat.add_add_add_comm, Nat.add_sub_cancel' hl2] at this
      exact Nat.succ_injective this
    refine ⟨?_, hml⟩
    rw [fromAngles_congr hml hlen, hg]
    rw [angP_mergePairs, ← (fromAngles_ok la fa).1, ← (fromAngles_ok lb fb).1,
      (fromAngles_ok hprelen a2).1, (fromAngles_ok hsuflen a3).1,
      ← angP_split hlen hl2 hunit]

end DS
end QSP
