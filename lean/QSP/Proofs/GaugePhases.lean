/-
  The sign gauge in the language of phases: multiplying the pair `(cos φ, sin φ)` by `ε = ±1` shifts
  `φ` by an even / odd multiple of `π`, so signs of product `±1` are shifts whose total is even / odd.
-/
import QSP.Proofs.Gauge
import Mathlib.Analysis.SpecialFunctions.Trigonometric.Angle
import Mathlib.Algebra.Group.Even
namespace QSP
namespace DS

noncomputable def prR (φ : ℝ) : ℝ × ℝ := (Real.cos φ, Real.sin φ)

theorem eq_add_two_pi_of_cos_sin {ψ φ : ℝ} (hc : Real.cos ψ = Real.cos φ)
    (hs : Real.sin ψ = Real.sin φ) : ∃ j : ℤ, ψ = φ + Real.pi * (2 * j) := by
  obtain ⟨j, hj⟩ := Real.Angle.angle_eq_iff_two_pi_dvd_sub.mp (Real.Angle.cos_sin_inj hc hs)
  exact ⟨j, by linear_combination hj⟩

theorem phase_of_sign {ψ φ ε : ℝ} (hε : ε = 1 ∨ ε = -1)
    (h : prR ψ = (ε * (prR φ).1, ε * (prR φ).2)) :
    ∃ m : ℤ, ψ = φ + Real.pi * m ∧ ((ε = 1 ∧ Even m) ∨ (ε = -1 ∧ Odd m)) := by
  simp only [prR, Prod.mk.injEq] at h
  rcases hε with rfl | rfl
  · obtain ⟨j, hj⟩ := eq_add_two_pi_of_cos_sin (ψ := ψ) (φ := φ) (by rw [h.1, one_mul])
      (by rw [h.2, one_mul])
    exact ⟨2 * j, by rw [hj, Int.cast_mul, Int.cast_ofNat], Or.inl ⟨rfl, even_two_mul j⟩⟩
  · obtain ⟨j, hj⟩ := eq_add_two_pi_of_cos_sin (ψ := ψ) (φ := φ + Real.pi)
      (by rw [Real.cos_add_pi, h.1, neg_one_mul]) (by rw [Real.sin_add_pi, h.2, neg_one_mul])
    exact ⟨2 * j + 1, by rw [hj]; push_cast; ring, Or.inr ⟨rfl, odd_two_mul_add_one j⟩⟩

theorem phases_of_signs : ∀ (φs ψs es : List ℝ), φs.length = ψs.length →
    es.length = φs.length → (∀ e ∈ es, e = 1 ∨ e = -1) →
    ψs.map prR = scalePairs es (φs.map prR) →
    ∃ ms : List ℤ, ms.length = φs.length ∧
      ψs = List.zipWith (fun φ (m : ℤ) => φ + Real.pi * m) φs ms ∧
      ((es.prod = 1 ∧ Even ms.sum) ∨ (es.prod = -1 ∧ Odd ms.sum))
  | [], [], [], _, _, _, _ => ⟨[], rfl, rfl, Or.inl ⟨rfl, Even.zero⟩⟩
  | φ :: φs, ψ :: ψs, e :: es, h1, h2, hes, h => by
    rw [List.map_cons, List.map_cons, scalePairs_cons, List.cons.injEq] at h
    obtain ⟨he, hes'⟩ := List.forall_mem_cons.mp hes
    obtain ⟨m, hm, hpar⟩ := phase_of_sign he h.1
    obtain ⟨ms, l, hz, hp⟩ := phases_of_signs φs ψs es (Nat.succ_injective h1)
      (Nat.succ_injective h2) hes' h.2
    refine ⟨m :: ms, by rw [List.length_cons, l, List.length_cons],
      by rw [hm, hz, List.zipWith_cons_cons], ?_⟩
    rw [List.prod_cons, List.sum_cons]
    -- the sign of the head times the sign of the rest, with the parities added
    rcases hpar with ⟨rfl, a⟩ | ⟨rfl, a⟩
    · rcases hp with ⟨hq, b⟩ | ⟨hq, b⟩
      · exact Or.inl ⟨by rw [hq, one_mul], a.add b⟩
      · exact Or.inr ⟨by rw [hq, one_mul], a.add_odd b⟩
    · rcases hp with ⟨hq, b⟩ | ⟨hq, b⟩
      · exact Or.inr ⟨by rw [hq, mul_one], a.add_even b⟩
      · exact Or.inl ⟨by rw [hq, neg_mul_neg, one_mul], a.add_odd b⟩

end DS
end QSP
