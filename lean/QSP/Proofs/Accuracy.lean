/-
  Soundness of the accuracy certificates of `QSP/Model/Accuracy.lean` (property C16):
  multiplication by `x` and the monomial → Chebyshev conversion, exact on coefficient lists in the
  Chebyshev basis, the exact Taylor coefficient lists of `cos(τ x)` / `sin(τ x)`, and the two
  validators `validTrig`, `validInv`.
-/
import QSP.Model.Accuracy
import QSP.Proofs.Series
import QSP.Proofs.Trig

open Complex Finset
namespace QSP

/-! ## multiplication by `x` in the Chebyshev basis -/

theorem wsum_T_shift (x : ℝ) (l : List ℚ) (k : ℕ) :
    wsum (fun j => (Polynomial.Chebyshev.T ℝ (j : ℤ)).eval x) l (k + 2) +
      wsum (fun j => (Polynomial.Chebyshev.T ℝ (j : ℤ)).eval x) l k =
    2 * x * wsum (fun j => (Polynomial.Chebyshev.T ℝ (j : ℤ)).eval x) l (k + 1) := by
  induction l generalizing k with
  | nil => simp [wsum]
  | cons a as ih =>
    simp only [wsum]
    push_cast
    rw [eval_T_add_two]
    linear_combination ih (k + 1)

theorem chebAt_chebMulX (c : List ℚ) (x : ℝ) : chebAt (chebMulX c) x = x * chebAt c x := by
  cases c with
  | nil => simp [chebMulX]
  | cons c0 rest =>
    -- the copies of `rest / 2` shifted up and down combine by the recurrence
    have h := wsum_T_shift x rest 0
    rw [chebMulX, chebAt_addL]
    simp only [chebAt, wsum, wsum_map_div, zero_add, Nat.cast_zero, Nat.cast_one,
      Polynomial.Chebyshev.T_zero, Polynomial.Chebyshev.T_one, Polynomial.eval_one,
      Polynomial.eval_X] at h ⊢
    push_cast
    linear_combination (1 / 2 : ℝ) * h

/-! ## monomial → Chebyshev conversion -/

theorem monoToCheb_cons (c : ℚ) (a : List ℚ) :
    monoToCheb (c :: a) = addL [c] (chebMulX (monoToCheb a)) := rfl

theorem chebAt_monoToCheb (a : List ℚ) (x : ℝ) : chebAt (monoToCheb a) x = polyAt a x := by
  induction a with
  | nil => simp [monoToCheb]
  | cons c cs ih =>
    rw [monoToCheb_cons, chebAt_addL, chebAt_singleton, chebAt_chebMulX, ih, polyAt_cons]

/-! ## the Taylor coefficient lists -/

theorem trig_head (m : ℕ) (t : ℚ) :
    (((if m % 4 = 0 then t else if m % 4 = 2 then -t else 0 : ℚ) : ℝ) : ℂ) +
      (((if m % 4 = 1 then t else if m % 4 = 3 then -t else 0 : ℚ) : ℝ) : ℂ) * I =
    ((t : ℝ) : ℂ) * I ^ m := by
  rw [I_pow_eq_pow_mod]
  have h : m % 4 = 0 ∨ m % 4 = 1 ∨ m % 4 = 2 ∨ m % 4 = 3 := by omega
  rcases h with h | h | h | h <;> simp [h]

theorem trigTaylorAux_spec (τ : ℚ) (x : ℝ) (n m : ℕ) (t : ℚ)
    (ht : ((t : ℝ) : ℂ) * I ^ m = (((τ : ℝ) : ℂ) * I) ^ m / (m.factorial : ℂ)) :
    ((polyAt (trigTaylorAux τ n m t).1 x : ℝ) : ℂ) +
        ((polyAt (trigTaylorAux τ n m t).2 x : ℝ) : ℂ) * I =
      ∑ j ∈ range n, (((τ : ℝ) : ℂ) * I) ^ (m + j) / ((m + j).factorial : ℂ) * (x : ℂ) ^ j := by
  induction n generalizing m t with
  | zero => simp [trigTaylorAux]
  | succ n ih =>
    have hrec := ih (m + 1) (t * τ / ((m + 1 : ℕ) : ℚ)) (by
      rw [pow_succ (_ * I), Nat.factorial_succ, Nat.cast_mul, mul_comm ((m + 1 : ℕ) : ℂ),
        ← div_mul_div_comm, ← ht]
      push_cast
      ring)
    have hsum : ∑ j ∈ range n, (((τ : ℝ) : ℂ) * I) ^ (m + (j + 1)) /
          ((m + (j + 1)).factorial : ℂ) * (x : ℂ) ^ (j + 1) =
        (x : ℂ) * ∑ j ∈ range n, (((τ : ℝ) : ℂ) * I) ^ (m + 1 + j) /
          ((m + 1 + j).factorial : ℂ) * (x : ℂ) ^ j := by
      rw [mul_sum]
      refine sum_congr rfl fun j _ => ?_
      rw [← Nat.add_assoc, Nat.add_right_comm, pow_succ (x : ℂ)]
      ring
    -- the head term `(iτ)^m / m!` is `t i^m`, split into its real and imaginary part
    simp only [trigTaylorAux, polyAt_cons]
    rw [sum_range_succ', hsum, ← hrec, Nat.add_zero m, pow_zero, mul_one, ← ht, ← trig_head m t]
    push_cast
    ring

theorem trigTaylor_spec (τ : ℚ) (n : ℕ) (x : ℝ) :
    ((polyAt (cosTaylor τ n) x : ℝ) : ℂ) + ((polyAt (sinTaylor τ n) x : ℝ) : ℂ) * I =
      expI ((τ : ℝ) * x) n := by
  rw [cosTaylor, sinTaylor, trigTaylorAux_spec τ x n 0 1 (by simp), expI]
  refine sum_congr rfl fun j _ => ?_
  rw [zero_add, Complex.ofReal_mul, mul_right_comm, mul_pow _ (x : ℂ), div_mul_eq_mul_div]

theorem polyAt_cosTaylor (τ : ℚ) (n : ℕ) (x : ℝ) :
    polyAt (cosTaylor τ n) x = (expI ((τ : ℝ) * x) n).re := by
  rw [← trigTaylor_spec]; simp

theorem polyAt_sinTaylor (τ : ℚ) (n : ℕ) (x : ℝ) :
    polyAt (sinTaylor τ n) x = (expI ((τ : ℝ) * x) n).im := by
  rw [← trigTaylor_spec]; simp

/-! ## the cosine / sine certificate -/

theorem trig_taylor_err (isSin : Bool) (τ scale : ℚ) (n : ℕ)
    (hg : 2 * qabs τ ≤ ((n + 1 : ℕ) : ℚ)) (x : ℝ) (hx : x ∈ Set.Icc (-1 : ℝ) 1) :
    |(scale : ℝ) * polyAt (if isSin then sinTaylor τ n else cosTaylor τ n) x -
        (scale : ℝ) * (if isSin then Real.sin ((τ : ℝ) * x) else Real.cos ((τ : ℝ) * x))| ≤
      ((qabs scale * trigRem τ n : ℚ) : ℝ) := by
  have hg' : 2 * |(τ : ℝ)| ≤ ((n + 1 : ℕ) : ℝ) := by
    rw [qabs_eq] at hg
    exact_mod_cast hg
  have hτx : |(τ : ℝ) * x| ≤ |(τ : ℝ)| := by
    rw [abs_mul]
    exact mul_le_of_le_one_right (abs_nonneg _) (abs_le.mpr hx)
  obtain ⟨hcos, hsin⟩ := cos_sin_bound ((τ : ℝ) * x) n (by linarith)
  -- the remainder at `τ x` is at most the remainder at `τ`
  have hrem : |(τ : ℝ) * x| ^ n / (n.factorial : ℝ) * 2 ≤ ((trigRem τ n : ℚ) : ℝ) := by
    rw [trigRem_cast]
    exact mul_le_mul_of_nonneg_right (div_le_div_of_nonneg_right
      (pow_le_pow_left₀ (abs_nonneg _) hτx n) (Nat.cast_nonneg _)) zero_le_two
  rw [Rat.cast_mul, qabs_eq, Rat.cast_abs, ← mul_sub, abs_mul]
  refine mul_le_mul_of_nonneg_left ?_ (abs_nonneg _)
  cases isSin
  · rw [if_neg Bool.false_ne_true, if_neg Bool.false_ne_true, polyAt_cosTaylor, abs_sub_comm]
    exact hcos.trans hrem
  · rw [if_pos rfl, if_pos rfl, polyAt_sinTaylor, abs_sub_comm]
    exact hsin.trans hrem

theorem validTrig_sound (isSin : Bool) (τ ε scale : ℚ) (n : ℕ) (c : List ℚ) (depth : ℕ)
    (h : (validTrig isSin τ ε scale n c depth).ok = true) :
    ∀ x : ℝ, x ∈ Set.Icc (-1 : ℝ) 1 →
      |chebAt c x - (scale : ℝ) *
          (if isSin then Real.sin ((τ : ℝ) * x) else Real.cos ((τ : ℝ) * x))| ≤ (ε : ℝ) := by
  intro x hx
  unfold validTrig at h
  split at h
  · exact absurd h Bool.false_ne_true
  · rename_i hg
    dsimp only at h
    have herr := trig_taylor_err isSin τ scale n (not_not.mp hg) x hx
    generalize (if isSin then sinTaylor τ n else cosTaylor τ n) = T at h herr
    -- `d = c − scale · T` in the Chebyshev basis; the distance splits at `scale · T(x)`
    have hd : chebAt (subL c (monoToCheb (T.map (scale * ·)))) x =
        chebAt c x - (scale : ℝ) * polyAt T x := by
      rw [chebAt_subL, chebAt_monoToCheb, polyAt_map_mul]
    refine (abs_sub_le _ ((scale : ℝ) * polyAt T x) _).trans ?_
    rw [← hd]
    split at h
    · rename_i hb
      have hb' := (Rat.cast_le (K := ℝ)).2 hb
      rw [Rat.cast_add] at hb'
      linarith [abs_chebAt_le_l1 (subL c (monoToCheb (T.map (scale * ·)))) x hx]
    · have hs := chebSupLe_sound _ _ depth h x hx
      rw [Rat.cast_sub] at hs
      linarith

/-! ## `(1 - x²)^b` -/

theorem chebAt_chebMulOneMinusX2 (f : List ℚ) (x : ℝ) :
    chebAt (chebMulOneMinusX2 f) x = (1 - x ^ 2) * chebAt f x := by
  rw [chebMulOneMinusX2, chebAt_subL, chebAt_chebMulX, chebAt_chebMulX]; ring

theorem chebAt_oneMinusX2Pow (b : ℕ) (x : ℝ) : chebAt (oneMinusX2Pow b) x = (1 - x ^ 2) ^ b := by
  induction b with
  | zero => simp [oneMinusX2Pow, chebAt_singleton]
  | succ b ih => rw [oneMinusX2Pow, chebAt_chebMulOneMinusX2, ih]; ring

theorem qpow_eq (q : ℚ) (n : ℕ) : qpow q n = q ^ n := by
  induction n with
  | zero => simp [qpow]
  | succ n ih => rw [qpow, ih, pow_succ]

theorem qpow_cast (q : ℚ) (n : ℕ) : ((qpow q n : ℚ) : ℝ) = (q : ℝ) ^ n := by
  rw [qpow_eq, Rat.cast_pow]

/-! ## the `1/x` certificate -/

/-- the analytic core of the `1/x` certificate, in variables: `g - 1/x = (e - P)/x` -/
theorem abs_sub_inv_le {x g e P L Q κ B : ℝ} (he : e = x * g - 1 + P) (hL : |e| ≤ L)
    (hP0 : 0 ≤ P) (hPQ : P ≤ Q) (hκx : 1 ≤ κ * |x|) (hB : κ * (L + Q) ≤ B) :
    |g - 1 / x| ≤ B := by
  have hxpos : 0 < |x| := by
    rcases (abs_nonneg x).eq_or_lt with h | h
    · rw [← h] at hκx; linarith
    · exact h
  have hx0 : x ≠ 0 := abs_pos.mp hxpos
  have hid : g - 1 / x = (e - P) / x := by
    rw [he, add_sub_cancel_right, sub_div, mul_div_cancel_left₀ g hx0]
  have hnum : |e - P| ≤ L + Q := (abs_sub _ _).trans (by rw [abs_of_nonneg hP0]; linarith)
  rw [hid, abs_div, div_le_iff₀ hxpos]
  calc |e - P| ≤ (L + Q) * 1 := by rw [mul_one]; exact hnum
    _ ≤ (L + Q) * (κ * |x|) := mul_le_mul_of_nonneg_left hκx ((abs_nonneg _).trans hnum)
    _ = κ * (L + Q) * |x| := by ring
    _ ≤ B * |x| := mul_le_mul_of_nonneg_right hB hxpos.le

theorem validInv_sound (κ ε scale : ℚ) (b : ℕ) (c : List ℚ)
    (h : (validInv κ ε scale b c).ok = true) :
    ∀ x : ℝ, 1 / (κ : ℝ) ≤ |x| → |x| ≤ 1 →
      |chebAt c x / (scale : ℝ) - 1 / x| ≤ 3 * (ε : ℝ) := by
  intro x hx1 hx2
  unfold validInv at h
  split at h
  · cases h
  · rename_i hg
    simp only [Bool.or_eq_true, decide_eq_true_eq, not_or, not_le, not_lt] at hg
    have hκ1 : (1 : ℝ) ≤ (κ : ℝ) := by exact_mod_cast hg.2
    have hκ0 : (0 : ℝ) < (κ : ℝ) := one_pos.trans_le hκ1
    have hxI : x ∈ Set.Icc (-1 : ℝ) 1 := abs_le.mp hx2
    have hx2' : x ^ 2 ≤ 1 := by rw [← sq_abs]; exact pow_le_one₀ (abs_nonneg x) hx2
    have hxsq : 1 / ((κ : ℝ) * (κ : ℝ)) ≤ x ^ 2 := by
      rw [← sq_abs, ← sq, ← one_div_pow]
      exact pow_le_pow_left₀ (one_div_pos.2 hκ0).le hx1 2
    -- `e` is the list the validator forms: `x g − 1 + (1 − x²)^b` in the Chebyshev basis
    refine abs_sub_inv_le
      (e := chebAt (addL (subL (chebMulX (c.map (· / scale))) [1]) (oneMinusX2Pow b)) x)
      (P := (1 - x ^ 2) ^ b) (Q := (1 - 1 / ((κ : ℝ) * (κ : ℝ))) ^ b) ?_
      (abs_chebAt_le_l1 _ x hxI) (pow_nonneg (sub_nonneg.2 hx2') b)
      (pow_le_pow_left₀ (sub_nonneg.2 hx2') (sub_le_sub_left hxsq 1) b) ((div_le_iff₀' hκ0).mp hx1) ?_
    · rw [chebAt_addL, chebAt_subL, chebAt_chebMulX, chebAt_map_div, chebAt_singleton,
        chebAt_oneMinusX2Pow, Rat.cast_one]
    · have h' := (Rat.cast_le (K := ℝ)).mpr (of_decide_eq_true h)
      rw [Rat.cast_mul, Rat.cast_add, qpow_cast] at h'
      push_cast at h'
      exact h'

end QSP
