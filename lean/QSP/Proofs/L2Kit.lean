/-
  Spectral-norm (L2 operator norm) kit for 2×2 complex matrices: entries and brackets `<v|A|v>`
  are bounded by the norm; the concrete factors (Hadamard, X-rotations, diagonal phases) are members
  of `Matrix.unitaryGroup`, so products of them are unitary by `mul_mem` and have norm 1 by
  `CStarRing.norm_of_mem_unitary`; Hadamard conjugation exchanges `rotC` and `diagC`.
-/
import QSP.Proofs.RespDef
import QSP.Proofs.Mat2
import Mathlib.Analysis.CStarAlgebra.Matrix
import Mathlib.Tactic.Ring
import Mathlib.Tactic.FinCases
import Mathlib.Tactic.NormNum
import Mathlib.Tactic.LinearCombination

open Matrix Complex
open scoped Matrix.Norms.L2Operator
namespace QSP

/-- `c·1 + s·iX` -/
noncomputable def rotC (c s : ℂ) : M22 := !![c, I * s; I * s, c]

/-- `diag(e^{iθ}, e^{-iθ})`, pyqsp's `Wz` signal operator at `a = cos θ` -/
noncomputable def wC (θ : ℝ) : M22 := !![exp ((θ : ℂ) * I), 0; 0, exp (-((θ : ℂ) * I))]

/-- `c·1 + s·iZ` -/
noncomputable def diagC (c s : ℂ) : M22 := !![c + I * s, 0; 0, c - I * s]

/-! ## unitaries -/

theorem norm_one_M22 : ‖(1 : M22)‖ = 1 := CStarRing.norm_one

theorem norm_le_one_of_unitary {U : M22} (h : U ∈ unitaryGroup (Fin 2) ℂ) : ‖U‖ ≤ 1 :=
  (CStarRing.norm_of_mem_unitary h).le

/-! ## entries and brackets -/

theorem norm_dotProduct_mulVec_le (A : M22) (v w : Fin 2 → ℂ) :
    ‖v ⬝ᵥ (A *ᵥ w)‖ ≤ ‖A‖ * (‖WithLp.toLp 2 v‖ * ‖WithLp.toLp 2 w‖) := by
  have h1 : v ⬝ᵥ (A *ᵥ w)
      = inner ℂ (WithLp.toLp 2 (star v)) (WithLp.toLp 2 (A *ᵥ w)) := by
    rw [EuclideanSpace.inner_toLp_toLp, star_star, dotProduct_comm]
  have h2 : ‖WithLp.toLp 2 (star v)‖ = ‖WithLp.toLp 2 v‖ := by
    rw [EuclideanSpace.norm_eq, EuclideanSpace.norm_eq]
    simp
  have h3 := Matrix.l2_opNorm_mulVec A (WithLp.toLp 2 w)
  rw [h1]
  refine (norm_inner_le_norm _ _).trans ?_
  rw [h2]
  calc ‖WithLp.toLp 2 v‖ * ‖WithLp.toLp 2 (A *ᵥ w)‖
      ≤ ‖WithLp.toLp 2 v‖ * (‖A‖ * ‖WithLp.toLp 2 w‖) :=
        mul_le_mul_of_nonneg_left h3 (norm_nonneg _)
    _ = _ := by ring

theorem norm_toLp_single (j : Fin 2) : ‖WithLp.toLp 2 (Pi.single j (1 : ℂ) : Fin 2 → ℂ)‖ = 1 :=
  (PiLp.norm_single 2 (fun _ => ℂ) j (1 : ℂ)).trans norm_one

theorem norm_entry_le (A : M22) (i j : Fin 2) : ‖A i j‖ ≤ ‖A‖ := by
  have h := norm_dotProduct_mulVec_le A (Pi.single i 1) (Pi.single j 1)
  rw [norm_toLp_single, norm_toLp_single] at h
  simpa using h

theorem ketDef_unit (me : Meas) : ∑ i, ‖ketDef me i‖ ^ 2 = 1 := by
  cases me
  · have h : ‖((1 / Real.sqrt 2 : ℝ) : ℂ)‖ ^ 2 = 1 / 2 := by
      rw [Complex.norm_real, Real.norm_eq_abs, sq_abs, div_pow, Real.sq_sqrt (by norm_num)]
      norm_num
    simp only [ketDef, Fin.sum_univ_two, Pi.smul_apply, smul_eq_mul, norm_mul, mul_pow, h,
      cons_val_zero, cons_val_one, norm_one, one_pow, mul_one]
    norm_num
  · simp [ketDef, Fin.sum_univ_two]

theorem norm_bracket_le (A : M22) (me : Meas) :
    ‖ketDef me ⬝ᵥ (A *ᵥ ketDef me)‖ ≤ ‖A‖ := by
  have h := norm_dotProduct_mulVec_le A (ketDef me) (ketDef me)
  have hn : ‖WithLp.toLp 2 (ketDef me)‖ * ‖WithLp.toLp 2 (ketDef me)‖ = 1 := by
    rw [← sq, EuclideanSpace.norm_sq_eq]
    simpa using ketDef_unit me
  rwa [hn, mul_one] at h

/-! ## concrete matrices -/

theorem inv_sqrt_two_sq : ((1 / Real.sqrt 2 : ℝ) : ℂ) * ((1 / Real.sqrt 2 : ℝ) : ℂ) = 1 / 2 := by
  rw [← Complex.ofReal_mul]
  have : (1 / Real.sqrt 2 : ℝ) * (1 / Real.sqrt 2) = 1 / 2 := by
    rw [div_mul_div_comm, Real.mul_self_sqrt (by norm_num)]; norm_num
  rw [this]; norm_num

theorem HadMat_mul_self : HadMat * HadMat = 1 := by
  have h := inv_sqrt_two_sq
  unfold HadMat
  generalize ((1 / Real.sqrt 2 : ℝ) : ℂ) = k at h ⊢
  rw [smul_fin_two, mul_fin_two, one_fin_two]
  simp only [smul_eq_mul]
  refine mat2_congr ?_ ?_ ?_ ?_
  · linear_combination 2 * h
  · ring
  · ring
  · linear_combination 2 * h

theorem HadMat_conjTranspose : HadMatᴴ = HadMat := by
  rw [HadMat, smul_fin_two, conjTranspose_fin_two]
  simp only [smul_eq_mul, mul_one, mul_neg, star_neg, RCLike.star_def, Complex.conj_ofReal]

theorem had_cancel (Y : M22) : HadMat * (HadMat * Y) = Y := by
  rw [← Matrix.mul_assoc, HadMat_mul_self, Matrix.one_mul]

theorem HadMat_unitary : HadMat ∈ unitaryGroup (Fin 2) ℂ :=
  mem_unitaryGroup_iff'.mpr (by rw [star_eq_conjTranspose, HadMat_conjTranspose, HadMat_mul_self])

theorem norm_HadMat_le : ‖HadMat‖ ≤ 1 := norm_le_one_of_unitary HadMat_unitary

theorem had_conj_unitary {M : M22} (h : M ∈ unitaryGroup (Fin 2) ℂ) :
    HadMat * M * HadMat ∈ unitaryGroup (Fin 2) ℂ :=
  mul_mem (mul_mem HadMat_unitary h) HadMat_unitary

theorem norm_had_conj (M : M22) : ‖HadMat * M * HadMat‖ = ‖M‖ := by
  rw [CStarRing.norm_mul_mem_unitary _ HadMat_unitary,
    CStarRing.norm_mem_unitary_mul _ HadMat_unitary]

/-- `√2 ·` the Hadamard gate, `M2.had` of the model over `ℂ` -/
noncomputable def had2 : M22 := !![1, 1; 1, -1]

theorem HadMat_eq : HadMat = ((1 / Real.sqrt 2 : ℝ) : ℂ) • had2 := rfl

theorem had_conj_eq (M : M22) : HadMat * M * HadMat = (1 / 2 : ℂ) • (had2 * M * had2) := by
  rw [HadMat_eq, Matrix.smul_mul, Matrix.smul_mul, Matrix.mul_smul, smul_smul, inv_sqrt_two_sq]

theorem had_conj_diagC (c s : ℂ) : HadMat * diagC c s * HadMat = rotC c s := by
  rw [had_conj_eq, had2, diagC, rotC, mul_fin_two, mul_fin_two, smul_fin_two]
  simp only [smul_eq_mul]
  refine mat2_congr ?_ ?_ ?_ ?_ <;> ring

theorem had_conj_rotC (c s : ℂ) : HadMat * rotC c s * HadMat = diagC c s := by
  rw [← had_conj_diagC, Matrix.mul_assoc, Matrix.mul_assoc, HadMat_mul_self, Matrix.mul_one,
    had_cancel]

theorem rotC_unitary (c s : ℝ) (h : c ^ 2 + s ^ 2 = 1) :
    rotC (c : ℂ) (s : ℂ) ∈ unitaryGroup (Fin 2) ℂ := by
  have hC : (c : ℂ) ^ 2 + (s : ℂ) ^ 2 = 1 := by
    rw [← Complex.ofReal_pow, ← Complex.ofReal_pow, ← Complex.ofReal_add, h, Complex.ofReal_one]
  rw [mem_unitaryGroup_iff', star_eq_conjTranspose, rotC, conjTranspose_fin_two, mul_fin_two,
    one_fin_two]
  simp only [star_mul', RCLike.star_def, Complex.conj_ofReal, Complex.conj_I]
  refine mat2_congr ?_ ?_ ?_ ?_
  · linear_combination hC - (s : ℂ) ^ 2 * Complex.I_sq
  · ring
  · ring
  · linear_combination hC - (s : ℂ) ^ 2 * Complex.I_sq

theorem diagC_unitary (c s : ℝ) (h : c ^ 2 + s ^ 2 = 1) :
    diagC (c : ℂ) (s : ℂ) ∈ unitaryGroup (Fin 2) ℂ :=
  had_conj_rotC (c : ℂ) (s : ℂ) ▸ had_conj_unitary (rotC_unitary c s h)

/-- `i` times the Pauli matrix `X` -/
noncomputable def iX : M22 := !![0, I; I, 0]

theorem norm_iX : ‖iX‖ = 1 := by
  have h := rotC_unitary 0 1 (by norm_num)
  rw [rotC, Complex.ofReal_zero, Complex.ofReal_one, mul_one] at h
  exact CStarRing.norm_of_mem_unitary h

theorem rotC_eq (c s : ℂ) : rotC c s = c • (1 : M22) + s • iX := by
  rw [rotC, iX, one_fin_two, smul_fin_two, smul_fin_two, add_fin_two]
  simp only [smul_eq_mul, mul_one, mul_zero, add_zero, zero_add, mul_comm]

theorem diagC_sub (c s c' s' : ℂ) : diagC c s - diagC c' s' = diagC (c - c') (s - s') := by
  simp only [diagC, sub_fin_two]
  refine mat2_congr ?_ ?_ ?_ ?_ <;> ring

theorem rotC_sub (c s c' s' : ℂ) : rotC c s - rotC c' s' = rotC (c - c') (s - s') := by
  simp only [rotC, sub_fin_two]
  refine mat2_congr ?_ ?_ ?_ ?_ <;> ring

theorem norm_rotC_le (c s : ℂ) : ‖rotC c s‖ ≤ ‖c‖ + ‖s‖ := by
  rw [rotC_eq]
  refine (norm_add_le _ _).trans ?_
  rw [norm_smul, norm_smul, norm_one_M22, norm_iX, mul_one, mul_one]

theorem norm_diagC_le (c s : ℂ) : ‖diagC c s‖ ≤ ‖c‖ + ‖s‖ := by
  rw [← had_conj_rotC, norm_had_conj]
  exact norm_rotC_le c s

theorem norm_diag2_le (x y : ℂ) : ‖(!![x, 0; 0, y] : M22)‖ ≤ max ‖x‖ ‖y‖ := by
  rw [← diagonal_vec2, Matrix.l2_opNorm_diagonal]
  refine (pi_norm_le_iff_of_nonneg (le_max_of_le_left (norm_nonneg _))).mpr fun i => ?_
  fin_cases i
  · exact le_max_left _ _
  · exact le_max_right _ _

theorem exp_mul_I_eq (φ : ℝ) :
    exp ((φ : ℂ) * I) = ((Real.cos φ : ℝ) : ℂ) + I * ((Real.sin φ : ℝ) : ℂ) := by
  rw [Complex.exp_mul_I, Complex.ofReal_cos, Complex.ofReal_sin]; ring

theorem exp_neg_mul_I_eq (φ : ℝ) :
    exp (-((φ : ℂ) * I)) = ((Real.cos φ : ℝ) : ℂ) - I * ((Real.sin φ : ℝ) : ℂ) := by
  rw [← neg_mul, Complex.exp_mul_I, Complex.cos_neg, Complex.sin_neg, Complex.ofReal_cos,
    Complex.ofReal_sin]; ring

theorem PzMat_eq (φ : ℝ) : PzMat φ = diagC (Real.cos φ) (Real.sin φ) := by
  unfold PzMat diagC
  rw [exp_mul_I_eq, exp_neg_mul_I_eq]

theorem wC_eq (θ : ℝ) : wC θ = PzMat θ := rfl

theorem wC_neg_mul (θ : ℝ) : wC (-θ) * wC θ = 1 := by
  unfold wC
  rw [Matrix.mul_fin_two, Matrix.one_fin_two]
  refine mat2_congr ?_ ?_ ?_ ?_
  · rw [mul_zero, add_zero, ← Complex.exp_add, Complex.ofReal_neg, neg_mul, neg_add_cancel,
      Complex.exp_zero]
  · rw [mul_zero, zero_mul, add_zero]
  · rw [zero_mul, mul_zero, add_zero]
  · rw [mul_zero, zero_add, ← Complex.exp_add, Complex.ofReal_neg, neg_mul, neg_neg,
      add_neg_cancel, Complex.exp_zero]

theorem wC_mul_neg (θ : ℝ) : wC θ * wC (-θ) = 1 := by
  have := wC_neg_mul (-θ)
  rwa [neg_neg] at this

theorem cos_sq_add_sin_sq_C (φ : ℝ) :
    ((Real.cos φ : ℝ) : ℂ) * ((Real.cos φ : ℝ) : ℂ) + ((Real.sin φ : ℝ) : ℂ) * ((Real.sin φ : ℝ) : ℂ)
      = 1 := by
  rw [← sq, ← sq]
  exact_mod_cast Real.cos_sq_add_sin_sq φ

theorem norm_rotC_unit_le (φ : ℝ) : ‖rotC (Real.cos φ) (Real.sin φ)‖ ≤ 1 :=
  norm_le_one_of_unitary (rotC_unitary _ _ (Real.cos_sq_add_sin_sq φ))

theorem PzMat_unitary (φ : ℝ) : PzMat φ ∈ unitaryGroup (Fin 2) ℂ :=
  PzMat_eq φ ▸ diagC_unitary _ _ (Real.cos_sq_add_sin_sq φ)

theorem norm_wC_le (θ : ℝ) : ‖wC θ‖ ≤ 1 := norm_le_one_of_unitary (PzMat_unitary θ)

theorem WxMat_eq (a : ℝ) : WxMat a = rotC (a : ℂ) ((Real.sqrt (1 - a ^ 2) : ℝ) : ℂ) := rfl

theorem WxMat_unitary (a : ℝ) (ha : a ∈ Set.Icc (-1 : ℝ) 1) :
    WxMat a ∈ unitaryGroup (Fin 2) ℂ := by
  have h0 : 0 ≤ 1 - a ^ 2 := sub_nonneg.mpr ((sq_le_one_iff_abs_le_one a).mpr (abs_le.mpr ha))
  exact rotC_unitary a _ (by rw [Real.sq_sqrt h0, add_sub_cancel])

theorem norm_WxMat_le (a : ℝ) (ha : a ∈ Set.Icc (-1 : ℝ) 1) : ‖WxMat a‖ ≤ 1 :=
  norm_le_one_of_unitary (WxMat_unitary a ha)

end QSP
