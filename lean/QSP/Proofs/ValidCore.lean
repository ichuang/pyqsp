/-
  Soundness of the comparison routines `validReal` / `validCplx` of `QSP/Model/Validators.lean`
  (a model polynomial against a polynomial in `cos θ`, at every point of the circle) and of the
  completion validators `validC04` / `validC05`.
-/
import QSP.Proofs.Series
import QSP.Proofs.Trig
open LaurentPolynomial Complex
namespace QSP

/-! ## the comparison routines -/

theorem supLeReal_evQ {d : LP ℚ} {B : ℚ} {depth : ℕ}
    (h : (supLeReal d.coefs d.dmin B depth).1 = true) (θ : ℝ) : ‖evQ d θ‖ ≤ (B : ℝ) :=
  supLeReal_sound d.coefs d.dmin B depth h _ (Complex.norm_exp_ofReal_mul_I θ)

theorem cert_evQ {d : LP ℚ} {B : ℚ} {depth : ℕ}
    (h : l1 d.coefs ≤ B ∨ (supLeReal d.coefs d.dmin B depth).1 = true) (θ : ℝ) :
    ‖evQ d θ‖ ≤ (B : ℝ) :=
  h.elim (fun h => (norm_evQ_le d θ).trans (Rat.cast_le.2 h)) (fun h => supLeReal_evQ h θ)

theorem validReal_sound {f : LP ℚ} (hf : f.WF) {E : ℚ} {t : List ℚ} {budget : ℚ} {depth : ℕ}
    {v : VOut} (h : validReal f E t budget depth = .ok v) (hv : v.ok = true) :
    ∀ θ : ℝ, ‖evQ f θ - ((polyAt t (Real.cos θ) : ℝ) : ℂ)‖ + (E : ℝ) ≤ (budget : ℝ) := by
  intro θ
  unfold validReal at h
  obtain ⟨⟨le, lo⟩, hparts, h⟩ := bind_ok h
  obtain ⟨hs, ho, hsum⟩ := laurentParts_select hparts (f.parity = 0)
  dsimp only at h
  generalize (if f.parity = 0 then le else lo) = same at h hs hsum
  generalize (if f.parity = 0 then lo else le) = other at h ho hsum
  obtain ⟨d, hd, h⟩ := bind_ok h
  have hc : ‖evQ d θ‖ ≤ ((budget - E - l1 other.coefs : ℚ) : ℝ) := by
    refine cert_evQ (depth := depth) ?_ θ
    split at h <;> cases h
    · exact .inl (le_sub_iff_add_le.2 (le_sub_iff_add_le.2 ‹_›))
    · exact .inr hv
  rw [hsum θ, show evQ f θ - (evQ same θ + evQ other θ) = evQ d θ - evQ other θ by
    rw [evQ_sub hf hs hd]; ring]
  rw [Rat.cast_sub, Rat.cast_sub] at hc
  exact le_sub_iff_add_le.1 ((norm_sub_le _ _).trans
    ((add_le_add hc (norm_evQ_le other θ)).trans_eq (sub_add_cancel _ _)))

/-! ### the complex comparison -/

theorem norm_I_mul (z : ℂ) : ‖I * z‖ = ‖z‖ := by rw [norm_mul, Complex.norm_I, one_mul]

theorem sub_parity_of_nonzero {p q r : LP ℚ} (hp0 : p.iszero = false) (h : p.sub q = .ok r) :
    r.parity = p.parity := by
  rw [LP.sub, LP.add, hp0, if_neg Bool.false_ne_true] at h
  split at h
  · cases h; rw [LP.parity, dmin_mk']; rfl
  split at h
  · cases h
  · rename_i hpar
    dsimp only at h
    split at h
    · cases h; rw [LP.parity, dmin_mk', min_emod_two (not_not.mp hpar)]; rfl
    · cases h

theorem aligned_length {p : LP ℚ} (hp : p.WF) {lo hi : ℤ} {l : List ℚ}
    (h : p.aligned lo hi = .ok l)
    (hpar : p.iszero = true ∨ ((p.dmin - lo) % 2 = 0 ∧ (hi - p.dmax) % 2 = 0)) :
    (l.length : ℤ) = (hi - lo) / 2 + 1 := by
  cases hz : p.iszero
  · rcases hpar with h1 | ⟨h1, h2⟩
    · rw [hz] at h1; cases h1
    · exact (den_aligned p hp lo hi l (Or.inr h1) h).2 hz h2
  · unfold LP.aligned at h
    rw [if_pos hz] at h
    dsimp only at h
    split at h
    · cases h
    · cases h
      rw [length_zeros, Int.toNat_of_nonneg (not_lt.mp ‹_›)]

theorem FW_zip (a b : List ℚ) (hl : a.length = b.length) (d : ℤ) (w : ℂ) :
    FW ((List.zipWith (fun x y => ((x, y) : CQ)) a b).map toC) d w =
      FW (a.map (fun q : ℚ => ((q : ℝ) : ℂ))) d w +
        I * FW (b.map (fun q : ℚ => ((q : ℝ) : ℂ))) d w := by
  rw [← one_mul (FW (a.map _) d w), ← FW_lin2 1 I _ _ (by rw [List.length_map, List.length_map, hl]),
    List.map_zipWith, List.zipWith_map]
  simp only [toC_eq, one_mul, mul_comm I]

/-- the parity of the window ends, in the form `den_aligned` asks for -/
theorem window_sub {p : LP ℚ} {lo hi : ℤ}
    (w : p.iszero = true ∨ (lo % 2 = p.dmin % 2 ∧ hi % 2 = p.dmax % 2)) :
    p.iszero = true ∨ ((p.dmin - lo) % 2 = 0 ∧ (hi - p.dmax) % 2 = 0) :=
  w.imp id fun w => ⟨Int.emod_eq_emod_iff_emod_sub_eq_zero.1 w.1.symm,
    Int.emod_eq_emod_iff_emod_sub_eq_zero.1 w.2⟩

theorem FW_zip_aligned {re im : LP ℚ} (hre : re.WF) (him : im.WF) {lo hi : ℤ} {a b : List ℚ}
    (wr : re.iszero = true ∨ (lo % 2 = re.dmin % 2 ∧ hi % 2 = re.dmax % 2))
    (wi : im.iszero = true ∨ (lo % 2 = im.dmin % 2 ∧ hi % 2 = im.dmax % 2))
    (ha : re.aligned lo hi = .ok a) (hb : im.aligned lo hi = .ok b) (θ : ℝ) :
    FW ((List.zipWith (fun x y => ((x, y) : CQ)) a b).map toC) lo (exp ((θ : ℂ) * I)) =
      evQ re θ + I * evQ im θ := by
  have wr' := window_sub wr
  have wi' := window_sub wi
  have hl : (a.length : ℤ) = b.length :=
    (aligned_length hre ha wr').trans (aligned_length him hb wi').symm
  rw [FW_zip a b (Int.ofNat_inj.1 hl), ← evalQ_denL, ← evalQ_denL,
    (den_aligned re hre lo hi a (wr'.imp id And.left) ha).1,
    (den_aligned im him lo hi b (wi'.imp id And.left) hb).1, evQ_eq, evQ_eq]

theorem zipCQ_spec {re im : LP ℚ} (hre : re.WF) (him : im.WF)
    (hpar : re.iszero = true ∨ im.iszero = true ∨ re.parity = im.parity)
    {cs : List CQ} {lo : ℤ} (h : zipCQ re im = .ok (cs, lo)) (θ : ℝ) :
    FW (cs.map toC) lo (exp ((θ : ℂ) * I)) = evQ re θ + I * evQ im θ := by
  unfold zipCQ at h
  -- by the two zero flags: the window is `min dmin .. max dmax`, or that of the operand that is
  -- not flagged, or empty
  cases hr : re.iszero <;> cases hi : im.iszero
  all_goals
    simp only [hr, hi, Bool.and_self, Bool.and_false, Bool.false_and, Bool.false_eq_true,
      if_false, if_true] at h hpar
  · obtain ⟨a, ha, h⟩ := bind_ok h
    obtain ⟨b, hb, h⟩ := bind_ok h
    cases h
    -- the window runs from the lower `dmin` to the higher `dmax`, and all four have one parity
    have hp : re.dmin % 2 = im.dmin % 2 := (hpar.resolve_left id).resolve_left id
    have hq : re.dmax % 2 = im.dmax % 2 := by rw [re.dmax_emod, im.dmax_emod, hp]
    have wlo := min_emod_two hp
    have whi := max_emod_two hq
    exact FW_zip_aligned hre him (.inr ⟨wlo, whi⟩) (.inr ⟨wlo.trans hp, whi.trans hq⟩) ha hb θ
  · obtain ⟨a, ha, h⟩ := bind_ok h
    obtain ⟨b, hb, h⟩ := bind_ok h
    cases h
    exact FW_zip_aligned hre him (.inr ⟨rfl, rfl⟩) (.inl hi) ha hb θ
  · obtain ⟨a, ha, h⟩ := bind_ok h
    obtain ⟨b, hb, h⟩ := bind_ok h
    cases h
    exact FW_zip_aligned hre him (.inl hr) (.inr ⟨rfl, rfl⟩) ha hb θ
  · cases h
    rw [evQ_eq, evQ_eq, den_of_iszero hre hr, den_of_iszero him hi]
    simp [FW]

theorem supLeC_zip {re im : LP ℚ} (hre : re.WF) (him : im.WF)
    (hpar : re.iszero = true ∨ im.iszero = true ∨ re.parity = im.parity)
    {cs : List CQ} {lo : ℤ} (h : zipCQ re im = .ok (cs, lo)) {B : ℚ} {depth : ℕ}
    (hs : (supLeC cs lo B depth).1 = true) (θ : ℝ) : ‖evQ re θ + I * evQ im θ‖ ≤ (B : ℝ) := by
  rw [← zipCQ_spec hre him hpar h θ]
  exact supLeC_sound cs lo B depth hs _ (Complex.norm_exp_ofReal_mul_I θ)

/-- `hpar` cannot be dropped (second example below).  The zero flags `hzre hzim` enter through
    `sub_parity_of_nonzero`; the run that would refute the statement without them is rejected, since
    `0 + 0` keeps its flag (first example). -/
theorem validCplx_sound (fre fim : LP ℚ) (hre : fre.WF) (him : fim.WF)
    (hzre : fre.iszero = false) (hzim : fim.iszero = false) (hpar : fre.parity = fim.parity)
    (E : ℚ) (tre tim : List ℚ) (budget : ℚ) (depth : ℕ) (v : VOut)
    (h : validCplx fre fim E tre tim budget depth = .ok v) (hv : v.ok = true) :
    ∀ θ : ℝ, ‖(evQ fre θ + I * evQ fim θ) -
        (((polyAt tre (Real.cos θ) : ℝ) : ℂ) + I * ((polyAt tim (Real.cos θ) : ℝ) : ℂ))‖ + (E : ℝ)
      ≤ (budget : ℝ) := by
  intro θ
  unfold validCplx at h
  obtain ⟨⟨re_e, re_o⟩, hpr, h⟩ := bind_ok h
  obtain ⟨⟨im_e, im_o⟩, hpi, h⟩ := bind_ok h
  obtain ⟨w1, w2, s1⟩ := laurentParts_select hpr (fre.parity = 0)
  obtain ⟨w3, w4, s2⟩ := laurentParts_select hpi (fim.parity = 0)
  dsimp only at h
  generalize (if fre.parity = 0 then re_e else re_o) = sameRe at h w1 s1
  generalize (if fre.parity = 0 then re_o else re_e) = otherRe at h w2 s1
  generalize (if fim.parity = 0 then im_e else im_o) = sameIm at h w3 s2
  generalize (if fim.parity = 0 then im_o else im_e) = otherIm at h w4 s2
  obtain ⟨dre, hdre, h⟩ := bind_ok h
  obtain ⟨dim, hdim, h⟩ := bind_ok h
  -- either stage bounds `dre + i dim` by what the budget leaves after the other-parity parts
  have hc : ‖evQ dre θ + I * evQ dim θ‖ ≤
      ((budget - (l1 otherRe.coefs + l1 otherIm.coefs + E) : ℚ) : ℝ) := by
    split at h
    · cases h
      refine (norm_add_le _ _).trans ?_
      rw [norm_I_mul]
      have : l1 dre.coefs + l1 dim.coefs ≤ budget - (l1 otherRe.coefs + l1 otherIm.coefs + E) :=
        le_sub_iff_add_le.2 ‹_›
      exact (add_le_add (norm_evQ_le dre θ) (norm_evQ_le dim θ)).trans (by exact_mod_cast this)
    · obtain ⟨⟨cs, lo⟩, hz, h⟩ := bind_ok h
      cases h
      have hp : dre.parity = dim.parity := by
        rw [sub_parity_of_nonzero hzre hdre, sub_parity_of_nonzero hzim hdim, hpar]
      exact supLeC_zip (sub_ok hre w1 hdre).2 (sub_ok him w3 hdim).2 (.inr (.inr hp)) hz hv θ
  rw [s1 θ, s2 θ, show (evQ fre θ + I * evQ fim θ) -
      (evQ sameRe θ + evQ otherRe θ + I * (evQ sameIm θ + evQ otherIm θ)) =
      (evQ dre θ + I * evQ dim θ) - evQ otherRe θ - I * evQ otherIm θ by
    rw [evQ_sub hre w1 hdre, evQ_sub him w3 hdim]; ring]
  push_cast at hc
  have n := norm_sub_le ((evQ dre θ + I * evQ dim θ) - evQ otherRe θ) (I * evQ otherIm θ)
  rw [norm_I_mul] at n
  linarith [norm_sub_le (evQ dre θ + I * evQ dim θ) (evQ otherRe θ), norm_evQ_le otherRe θ,
    norm_evQ_le otherIm θ]

/-- the zero-flag hypothesis of `validCplx_sound`: `fre` the (well-formed) zero polynomial stored
    with an odd lowest power, `fim = cos θ`, both targets empty; `|0 + i cos 0| = 1` exceeds the
    budget `3/5`, and the run is rejected: `0 + 0` keeps the zero flag in `LP.add` -/
example : (validCplx ⟨[0], 1, true⟩ (LP.mk' [1 / 2, 1 / 2] (-1)) 0 [] [] (3 / 5) 30).map (·.ok)
    = .ok false := by decide +kernel

/-- `hpar` (parity) cannot be dropped: `fre = cos 2θ`, `fim = cos θ`, both targets empty; the budget
    `13/10` is accepted although `|cos 0 + i cos 0| = √2 > 13/10` -/
example : (validCplx (LP.mk' [1 / 2, 0, 1 / 2] (-2)) (LP.mk' [1 / 2, 1 / 2] (-1)) 0 [] []
    (13 / 10) 30).map (·.ok) = .ok true := by decide +kernel

/-- the `<+| · |+>` corner `(a(θ) + a(-θ))/2 + i (b(θ) + b(-θ))/2` of a pair against a complex
    target -/
theorem validCplx_symHalf {fa fb sa sb : LP ℚ} (ha : fa.NZ) (hb : fb.NZ)
    (hpar : fa.parity = fb.parity) (hsa : symHalf fa = .ok sa) (hsb : symHalf fb = .ok sb)
    {E : ℚ} {tre tim : List ℚ} {budget : ℚ} {depth : ℕ} {v : VOut}
    (h : validCplx sa sb E tre tim budget depth = .ok v) (hv : v.ok = true) (θ : ℝ) :
    ‖((evQ fa θ + evQ fa (-θ)) / 2 + I * ((evQ fb θ + evQ fb (-θ)) / 2)) -
        (((polyAt tre (Real.cos θ) : ℝ) : ℂ) + I * ((polyAt tim (Real.cos θ) : ℝ) : ℂ))‖ + (E : ℝ)
      ≤ (budget : ℝ) := by
  obtain ⟨a1, a2⟩ := symHalf_spec _ sa ha.1 hsa θ
  obtain ⟨b1, b2⟩ := symHalf_spec _ sb hb.1 hsb θ
  obtain ⟨a3, a4⟩ := symHalf_NZ _ sa ha hsa
  obtain ⟨b3, b4⟩ := symHalf_NZ _ sb hb hsb
  rw [← a1, ← b1]
  exact validCplx_sound sa sb a2 b2 a3.2 b3.2 (by rw [a4, b4, hpar]) E tre tim _ depth v h hv θ

/-! ## completion validators -/

theorem maxAbs_fold (l : List ℚ) (m : ℚ) :
    m ≤ l.foldl (fun m x => if m < qabs x then qabs x else m) m ∧
    ∀ c ∈ l, |c| ≤ l.foldl (fun m x => if m < qabs x then qabs x else m) m := by
  induction l generalizing m with
  | nil => simp
  | cons x xs ih =>
    obtain ⟨h1, h2⟩ := ih (if m < qabs x then qabs x else m)
    simp only [List.foldl_cons, List.mem_cons]
    -- one step of the fold is `max m |x|`
    rw [← max_def_lt, qabs_eq] at h1 h2 ⊢
    refine ⟨(le_max_left _ _).trans h1, ?_⟩
    rintro c (rfl | hc)
    · exact (le_max_right _ _).trans h1
    · exact h2 c hc

theorem maxAbs_nonneg (l : List ℚ) : 0 ≤ maxAbs l := (maxAbs_fold l 0).1

theorem abs_le_maxAbs {l : List ℚ} {c : ℚ} (hc : c ∈ l) : |c| ≤ maxAbs l := (maxAbs_fold l 0).2 c hc

theorem abs_coeff_denL_le (l : List ℚ) (d k : ℤ) : |(denL l d).coeff k| ≤ maxAbs l := by
  rw [denL_coeff]
  split
  · rename_i hk
    have hlt : ((k - d) / 2).toNat < l.length := by omega
    rw [List.getD_eq_getElem _ _ hlt]
    exact abs_le_maxAbs (List.getElem_mem hlt)
  · simpa using maxAbs_nonneg l

theorem unitarityDefect_spec {f g : LP ℚ} (hf : f.WF) (hg : g.WF) {m : ℚ}
    (h : unitarityDefect f g = .ok m) :
    ∀ k : ℤ, |(den f * invert (den f) + den g * invert (den g) - 1).coeff k| ≤ m := by
  unfold unitarityDefect at h
  obtain ⟨n, hn, h⟩ := bind_ok h
  obtain ⟨r, hr, h⟩ := bind_ok h
  cases h
  have hfi := den_inv f hf
  have hgi := den_inv g hg
  have hff := den_mul f f.inv hf hfi.2
  have hgg := den_mul g g.inv hg hgi.2
  obtain ⟨n1, n2⟩ := add_ok hff.2 hgg.2 hn
  obtain ⟨r1, -⟩ := sub_ok n2 WF_one hr
  intro k
  rw [← hfi.1, ← hgi.1, ← hff.1, ← hgg.1, ← n1, ← den_one (R := ℚ), ← r1]
  exact abs_coeff_denL_le _ _ _

theorem validC04_spec {F G : List ℚ} {tol : ℚ} {v : VOut} (h : validC04 F G tol = .ok v)
    (hv : v.ok = true) :
    G.length = F.length ∧ F ≠ [] ∧ ∀ k : ℤ,
      |(denL F (-(F.length : ℤ) + 1) * invert (denL F (-(F.length : ℤ) + 1)) +
        denL G (-(G.length : ℤ) + 1) * invert (denL G (-(G.length : ℤ) + 1)) - 1).coeff k| < tol := by
  unfold validC04 at h
  split at h
  · cases h; cases hv
  · rename_i hc
    obtain ⟨m, hm, h⟩ := bind_ok h
    cases h
    simp only [decide_eq_true_eq] at hv
    simp only [ne_eq, Bool.or_eq_true, decide_eq_true_eq, List.isEmpty_iff, not_or,
      Decidable.not_not] at hc
    refine ⟨hc.1, hc.2, fun k => lt_of_le_of_lt ?_ hv⟩
    have := unitarityDefect_spec (WF_mk' F _) (WF_mk' G _) hm k
    rwa [den_mk', den_mk'] at this

/-- C04: every coefficient of `F F~ + G G~ - 1` is below `tol` in magnitude -/
theorem validC04_sound (F G : List ℚ) (tol : ℚ) (v : VOut) (h : validC04 F G tol = .ok v)
    (hv : v.ok = true) :
    G.length = F.length ∧ ∀ k : ℤ,
      |(denL F (-(F.length : ℤ) + 1) * invert (denL F (-(F.length : ℤ) + 1)) +
        denL G (-(G.length : ℤ) + 1) * invert (denL G (-(G.length : ℤ) + 1)) - 1).coeff k| < tol :=
  ⟨(validC04_spec h hv).1, (validC04_spec h hv).2.2⟩

/-! ### pointwise form of the unitarity defect -/

theorem l1_le_length_mul (L : List ℚ) (ε : ℚ) (h : ∀ c ∈ L, |c| ≤ ε) :
    l1 L ≤ (L.length : ℚ) * ε := by
  induction L with
  | nil => simp [l1]
  | cons c cs ih =>
    rw [l1_cons, qabs_eq, List.length_cons]
    have h1 := h c (by simp)
    have h2 := ih (fun x hx => h x (by simp [hx]))
    push_cast
    linarith

theorem norm_evalQ_denL_le (L : List ℚ) (lo : ℤ) (ε : ℚ)
    (hc : ∀ k, |(denL L lo).coeff k| ≤ ε) (θ : ℝ) :
    ‖evalQ θ (denL L lo)‖ ≤ (L.length : ℝ) * (ε : ℝ) := by
  have hl : l1 L ≤ (L.length : ℚ) * ε := l1_le_length_mul L ε (fun c hcm => by
    obtain ⟨j, hj, rfl⟩ := List.getElem_of_mem hcm
    rw [← List.getD_eq_getElem L 0 hj, ← denL_coeff_grid L lo j]
    exact hc _)
  rw [evalQ_denL, ← evalC_denL_cast_eq_FW]
  exact (sup_le_l1 _ lo θ).trans (by exact_mod_cast hl)

theorem denL_mul_invert (F : List ℚ) :
    denL F (-(F.length : ℤ) + 1) * invert (denL F (-(F.length : ℤ) + 1)) =
      denL (convL F F.reverse) (-(2 * (F.length : ℤ) - 2)) := by
  rw [← denL_reverse, ← denL_convL]
  congr 1
  ring

theorem defect_eq_denL {F G : List ℚ} (hF : F ≠ []) (hlen : G.length = F.length) :
    ∃ L : List ℚ, L.length = 2 * F.length - 1 ∧
      denL F (-(F.length : ℤ) + 1) * invert (denL F (-(F.length : ℤ) + 1)) +
        denL G (-(G.length : ℤ) + 1) * invert (denL G (-(G.length : ℤ) + 1)) - 1 =
      denL L (-(2 * (F.length : ℤ) - 2)) := by
  have hn := List.length_pos_of_ne_nil hF
  have hG : G ≠ [] := List.ne_nil_of_length_pos (hlen ▸ hn)
  refine ⟨subL (addL (convL F F.reverse) (convL G G.reverse)) (zeros (F.length - 1) ++ [1]), ?_, ?_⟩
  · rw [subL, length_addL, length_addL, length_convL hF (by simpa using hF),
      length_convL hG (by simpa using hG)]
    simp only [List.length_reverse, List.length_map, List.length_append, length_zeros,
      List.length_singleton, hlen]
    rw [max_self, Nat.sub_add_cancel hn, ← two_mul,
      max_eq_left (Nat.le_sub_one_of_lt (lt_two_mul_self hn))]
  · rw [denL_mul_invert, denL_mul_invert, hlen, subL, denL_addL, denL_addL, denL_map_neg,
      denL_append, denL_zeros, length_zeros]
    -- the constant `1` sits at power `-(2n-2) + 2(n-1) = 0`
    have : -(2 * (F.length : ℤ) - 2) + 2 * ((F.length - 1 : ℕ) : ℤ) = 0 := by
      rw [Nat.cast_pred hn]
      ring
    rw [this]
    simp only [neg_sub, denL_cons, map_one, T_zero, mul_one, zero_add, denL_nil, add_zero]
    ring

theorem evalQ_defect (θ : ℝ) (A B : ℚ[T;T⁻¹]) :
    evalQ θ (A * invert A + B * invert B - 1) =
      evalQ θ A * evalQ (-θ) A + evalQ θ B * evalQ (-θ) B - 1 := by
  rw [RingHom.map_sub, RingHom.map_add, RingHom.map_mul, RingHom.map_mul, RingHom.map_one,
    evalQ_invert, evalQ_invert]

/-- the defect has `2n-1` coefficients (`defect_eq_denL`), each below `tol`: hence `(2n-1) tol` at
    every point of the circle -/
theorem validC04_pointwise (F G : List ℚ) (tol : ℚ) (v : VOut) (h : validC04 F G tol = .ok v)
    (hv : v.ok = true) (θ : ℝ) :
    ‖evQ (LP.mk' F (-(F.length : ℤ) + 1)) θ * evQ (LP.mk' F (-(F.length : ℤ) + 1)) (-θ) +
      evQ (LP.mk' G (-(G.length : ℤ) + 1)) θ * evQ (LP.mk' G (-(G.length : ℤ) + 1)) (-θ) - 1‖ ≤
      (2 * (F.length : ℝ) - 1) * (tol : ℝ) := by
  obtain ⟨hlen, hF, hdef⟩ := validC04_spec h hv
  have hn := List.length_pos_of_ne_nil hF
  obtain ⟨L, hL, hD⟩ := defect_eq_denL hF hlen
  have key := norm_evalQ_denL_le L _ tol (fun k => by rw [← hD]; exact (hdef k).le) θ
  rw [hL, Nat.cast_pred (Nat.mul_pos two_pos hn), Nat.cast_mul, Nat.cast_ofNat] at key
  rw [evQ_eq, evQ_eq, evQ_eq, evQ_eq, den_mk', den_mk', ← evalQ_defect, hD]
  exact key

/-! ### C05 -/

/-- the complex 1-norm `Σ_k |re_k + i im_k|` of a pair of coefficient lists -/
noncomputable def cnorm1 : List ℚ → List ℚ → ℝ
  | r :: rs, i :: is => Real.sqrt ((r : ℝ) ^ 2 + (i : ℝ) ^ 2) + cnorm1 rs is
  | [], _ => 0
  | _ :: _, [] => 0

theorem cnorm1Lo_le (pre pim : List ℚ) : ((cnorm1Lo pre pim : ℚ) : ℝ) ≤ cnorm1 pre pim := by
  induction pre generalizing pim with
  | nil => simp [cnorm1Lo, cnorm1]
  | cons r rs ih =>
    cases pim with
    | nil => simp [cnorm1Lo, cnorm1]
    | cons i is =>
      have := (sqrtLo_sound (r * r + i * i) 64
        (add_nonneg (mul_self_nonneg r) (mul_self_nonneg i))).2.1
      rw [Rat.cast_add, Rat.cast_mul, Rat.cast_mul, ← sq (r : ℝ), ← sq (i : ℝ)] at this
      rw [cnorm1Lo, cnorm1, Rat.cast_add]
      exact add_le_add this (ih is)

/-- C05: unitarity within `tol` (coefficient-wise) and the Hadamard-conjugated corner of
    `[[F(θ), iG(θ)], [iG(-θ), F(-θ)]]` equals `P(cos θ)` within `1e-9 ‖P‖₁` at every `θ` -/
theorem validC05_sound (pre pim F G : List ℚ) (tol : ℚ) (depth : ℕ) (v : VOut)
    (h : validC05 pre pim F G tol depth = .ok v) (hv : v.ok = true) :
    (G.length = F.length ∧ ∀ k : ℤ,
      |(denL F (-(F.length : ℤ) + 1) * invert (denL F (-(F.length : ℤ) + 1)) +
        denL G (-(G.length : ℤ) + 1) * invert (denL G (-(G.length : ℤ) + 1)) - 1).coeff k| < tol) ∧
    ∀ θ : ℝ,
      ‖((evQ (LP.mk' F (-(F.length : ℤ) + 1)) θ + evQ (LP.mk' F (-(F.length : ℤ) + 1)) (-θ)) / 2 +
          I * ((evQ (LP.mk' G (-(G.length : ℤ) + 1)) θ +
            evQ (LP.mk' G (-(G.length : ℤ) + 1)) (-θ)) / 2)) -
        (((polyAt pre (Real.cos θ) : ℝ) : ℂ) + I * ((polyAt pim (Real.cos θ) : ℝ) : ℂ))‖
      ≤ (1e-9 : ℝ) * cnorm1 pre pim := by
  unfold validC05 at h
  obtain ⟨u, hu, h⟩ := bind_ok h
  split at h
  · cases h; cases hv
  · rename_i hok
    obtain ⟨hlen, hF, hdef⟩ := validC04_spec hu (by simpa using hok)
    refine ⟨⟨hlen, hdef⟩, fun θ => ?_⟩
    obtain ⟨sa, hsa, h⟩ := bind_ok h
    obtain ⟨sb, hsb, h⟩ := bind_ok h
    have hG : G ≠ [] := List.ne_nil_of_length_pos (hlen ▸ List.length_pos_of_ne_nil hF)
    have := validCplx_symHalf (NZ_mk' hF _) (NZ_mk' hG _)
      (by unfold LP.parity; rw [dmin_mk', dmin_mk', hlen]) hsa hsb h hv θ
    rw [Rat.cast_zero, add_zero, Rat.cast_div, Rat.cast_ofNat] at this
    refine this.trans ?_
    rw [show (1e-9 : ℝ) = 1 / 1000000000 by norm_num, one_div_mul_eq_div]
    exact div_le_div_of_nonneg_right (cnorm1Lo_le pre pim) (by norm_num)

/-! ## Non-vacuity (kernel-checked runs of the validators; the theorems apply to them) -/

theorem ok_of_map_ok {x : Except Err VOut} (h : x.map (·.ok) = .ok true) :
    ∃ v, x = .ok v ∧ v.ok = true :=
  ok_of_map_eq h

/-- evaluated once by the kernel, for the next two examples -/
theorem validReal_accepted :
    (validReal (LP.mk' [-1 / 6, 1 / 2, 1 / 2, -1 / 6] (-3)) (1 / 1000) [] 1 20).map
      (fun v => (v.ok, v.stage)) = .ok (true, 2) := by decide +kernel

/-- `cos θ - cos(3θ)/3` against the zero target: 1-norm `4/3`, certified `≤ 1 - 1/1000` by the
    sup certificate (stage 2) -/
example : (validReal (LP.mk' [-1 / 6, 1 / 2, 1 / 2, -1 / 6] (-3)) (1 / 1000) [] 1 20).map
    (fun v => (v.ok, v.stage)) = .ok (true, 2) := validReal_accepted

example : ∀ θ : ℝ, ‖evQ (LP.mk' [-1 / 6, 1 / 2, 1 / 2, -1 / 6] (-3)) θ -
    ((polyAt [] (Real.cos θ) : ℝ) : ℂ)‖ + ((1 / 1000 : ℚ) : ℝ) ≤ ((1 : ℚ) : ℝ) := by
  obtain ⟨v, h, hv⟩ := ok_of_map_eq validReal_accepted
  exact validReal_sound (WF_mk' _ _) h (congrArg Prod.fst hv)

/-- complex target `i x / 2` against `(cos θ - cos(3θ)/3) + i cos θ / 2` (stage 2) -/
example : (validCplx (LP.mk' [-1 / 6, 1 / 2, 1 / 2, -1 / 6] (-3)) (LP.mk' [1 / 4, 1 / 4] (-1))
    (1 / 1000) [] [0, 1 / 2] 1 20).map (fun v => (v.ok, v.stage)) = .ok (true, 2) := by
  decide +kernel

/-- `F = cos θ`, `G = i sin θ` (as Laurent vectors) complete `P(x) = x` -/
example : (validC05 [0, 1] [0, 0] [1 / 2, 1 / 2] [-1 / 2, 1 / 2] (1 / 100) 20).map
    (fun v => (v.ok, v.stage)) = .ok (true, 1) := by decide +kernel

end QSP
