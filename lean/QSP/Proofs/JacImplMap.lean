/-
  The model `JacImpl.jacImplPt` commutes with ring homomorphisms `f : R →+* S`.  With
  `f = Rat.castHom ℝ`: what the driver computes at rational inputs, cast to `ℝ`, is the real model
  at the cast inputs.
-/
import QSP.Model.JacImpl
import Mathlib.Algebra.Ring.Hom.Defs
import Mathlib.Data.List.GetD

namespace QSP
namespace JacImpl
variable {R S : Type} [CommRing R] [CommRing S] (f : R →+* S)

/-- the entrywise image of a 3-vector under `f` -/
def m3 (v : V3 R) : V3 S := (f v.1, f v.2.1, f v.2.2)
/-- the entrywise image of a 3×3 matrix under `f` -/
def mM (M : Mat3 R) : Mat3 S := (m3 f M.1, m3 f M.2.1, m3 f M.2.2)

theorem m3_vecMat (w : V3 R) (M : Mat3 R) : m3 f (vecMat w M) = vecMat (m3 f w) (mM f M) := by
  simp only [vecMat, m3, mM, f.map_add, f.map_mul]

theorem m3_matVec (M : Mat3 R) (v : V3 R) : m3 f (matVec M v) = matVec (mM f M) (m3 f v) := by
  simp only [matVec, m3, mM, f.map_add, f.map_mul]

theorem map_dot (w v : V3 R) : f (dot w v) = dot (m3 f w) (m3 f v) := by
  simp only [dot, m3, f.map_add, f.map_mul]

theorem map_two : f (two : R) = (two : S) := by
  simp only [two, f.map_add, f.map_one]

theorem m3_dbl3 (w : V3 R) : m3 f (dbl3 w) = dbl3 (m3 f w) := by
  simp only [dbl3, m3, f.map_mul, map_two]

theorem mM_rzMat (p : R × R) : mM f (rzMat p) = rzMat (Prod.map f f p) := by
  simp only [rzMat, mM, m3, Prod.map, f.map_neg, f.map_zero, f.map_one]

theorem mM_dMat (p : R × R) : mM f (dMat p) = dMat (Prod.map f f p) := by
  simp only [dMat, mM, m3, Prod.map, f.map_neg, f.map_zero]

theorem mM_bMat (c2 s2 : R) : mM f (bMat c2 s2) = bMat (f c2) (f s2) := by
  simp only [bMat, mM, m3, f.map_neg, f.map_zero, f.map_one]

theorem m3_e2 : m3 f ((0, 1, 0) : V3 R) = (0, 1, 0) := by simp only [m3, f.map_zero, f.map_one]
theorem m3_z3 : m3 f ((0, 0, 0) : V3 R) = (0, 0, 0) := by simp only [m3, f.map_zero]
theorem m3_e1 : m3 f ((1, 0, 0) : V3 R) = (1, 0, 0) := by simp only [m3, f.map_zero, f.map_one]
theorem prodMap_one_zero : Prod.map f f ((1, 0) : R × R) = (1, 0) := by
  simp only [Prod.map, f.map_zero, f.map_one]

theorem lRows_map (B : Mat3 R) (qs : List (R × R)) :
    (lRows B qs).map (m3 f) = lRows (mM f B) (qs.map (Prod.map f f)) := by
  induction qs with
  | nil => simp only [lRows, List.map_cons, List.map_nil, m3_e2]
  | cons q qs ih =>
    simp only [lRows, List.map_cons, m3_vecMat, mM_rzMat, ← ih]
    rw [← m3_e2 f, List.headD_eq_getD, List.headD_eq_getD, List.getD_map]

theorem rCols_map (B : Mat3 R) (v : V3 R) (ps : List (R × R)) :
    (rCols B v ps).map (m3 f) = rCols (mM f B) (m3 f v) (ps.map (Prod.map f f)) := by
  induction ps generalizing v with
  | nil => rfl
  | cons p ps ih => simp only [rCols, List.map_cons, ih, m3_matVec, mM_rzMat]

theorem jacImplCore_map (B : Mat3 R) (r0 : V3 R) (pairs2 : List (R × R)) :
    (jacImplCore B r0 pairs2).map f
      = jacImplCore (mM f B) (m3 f r0) (pairs2.map (Prod.map f f)) := by
  have hL : ∀ k, (lRows (mM f B) (pairs2.map (Prod.map f f)).tail).getD k (0, 1, 0)
      = m3 f ((lRows B pairs2.tail).getD k (0, 1, 0)) := by
    intro k
    rw [← List.map_tail, ← lRows_map, ← m3_e2 f, List.getD_map]
  have hR : ∀ k, (rCols (mM f B) (m3 f r0) (pairs2.map (Prod.map f f))).getD k (0, 0, 0)
      = m3 f ((rCols B r0 pairs2).getD k (0, 0, 0)) := by
    intro k
    rw [← rCols_map, ← m3_z3 f, List.getD_map]
  have hP : ∀ k, (pairs2.map (Prod.map f f)).getD k (1, 0)
      = Prod.map f f (pairs2.getD k (1, 0)) := by
    intro k
    rw [← prodMap_one_zero f, List.getD_map]
  simp only [jacImplCore, List.map_append, List.map_map, List.map_cons, List.map_nil,
    List.length_map, hL, hR, hP, ← mM_rzMat, ← mM_dMat, ← m3_dbl3, ← m3_vecMat, ← map_dot]
  rfl

theorem jacImplPt_map (par : ℕ) (pairs2 : List (R × R)) (ct st : R) :
    (jacImplPt par pairs2 ct st).map f
      = jacImplPt par (pairs2.map (Prod.map f f)) (f ct) (f st) := by
  unfold jacImplPt
  rw [List.length_map]
  split_ifs with h0 hp
  · rfl
  · rw [jacImplCore_map, mM_bMat, m3_e1]
    simp only [map_sub, map_mul, map_two]
  · rw [jacImplCore_map, mM_bMat]
    simp only [map_sub, map_mul, map_two, m3, map_zero]

end JacImpl
end QSP
