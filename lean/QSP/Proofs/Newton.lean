/-
  Control flow of `newton_Solver` (model: `newtonExit` in `QSP/Model/SymQSP.lean`):
  the returned iteration is the least one at which a break condition holds, the reported
  error is the one observed in that iteration, `maxiter` has priority over `crit`.
-/
import QSP.Model.SymQSP
import Mathlib.Data.Rat.Defs
namespace QSP

/-- a break condition holds in iteration `j` (which observes `errs[j-1]`) -/
def NewtonBreak (crit maxiter : ℚ) (errs : List ℚ) (j : ℕ) : Prop :=
  (j : ℚ) ≥ maxiter ∨ errs.getD (j - 1) 0 < crit

/-- no break in the iteration that observes `errs[i]` when the count starts at `k0` -/
def NoBreak (crit maxiter : ℚ) (errs : List ℚ) (k0 i : ℕ) : Prop :=
  ¬ (((k0 + i + 1 : ℕ) : ℚ) ≥ maxiter) ∧ ¬ (errs.getD i 0 < crit)

theorem noBreak_cons_succ (crit maxiter : ℚ) (x : ℚ) (xs : List ℚ) (k0 i : ℕ) :
    NoBreak crit maxiter (x :: xs) k0 (i + 1) ↔ NoBreak crit maxiter xs (k0 + 1) i := by
  rw [NoBreak, NoBreak, List.getD_cons_succ, show k0 + (i + 1) + 1 = k0 + 1 + i + 1 by omega]

theorem newtonExitAux_spec (crit maxiter : ℚ) (errs : List ℚ) (k0 k : ℕ) (e : ℚ)
    (br : NewtonExit) (h : newtonExitAux crit maxiter errs k0 = some (k, e, br)) :
    ∃ i < errs.length, k = k0 + i + 1 ∧ e = errs.getD i 0 ∧
      (∀ i' < i, NoBreak crit maxiter errs k0 i') ∧
      (br = .maxiter → (k : ℚ) ≥ maxiter) ∧ (br = .crit → ¬ ((k : ℚ) ≥ maxiter) ∧ e < crit) := by
  induction errs generalizing k0 with
  | nil => cases h
  | cons x xs ih =>
    unfold newtonExitAux at h
    split_ifs at h with h1 h2
    · cases h
      exact ⟨0, by simp, rfl, rfl, fun _ h => absurd h (Nat.not_lt_zero _), fun _ => h1, nofun⟩
    · cases h
      exact ⟨0, by simp, rfl, rfl, fun _ h => absurd h (Nat.not_lt_zero _), nofun,
        fun _ => ⟨h1, h2⟩⟩
    · obtain ⟨i, hi, rfl, rfl, a4, a5, a6⟩ := ih (k0 + 1) h
      refine ⟨i + 1, by simpa using hi, by omega, rfl, fun i' hi' => ?_, a5, a6⟩
      cases i' with
      | zero => exact ⟨h1, h2⟩
      | succ i' => exact (noBreak_cons_succ ..).mpr (a4 i' (by omega))

theorem newtonExitAux_none_iff (crit maxiter : ℚ) (errs : List ℚ) (k0 : ℕ) :
    newtonExitAux crit maxiter errs k0 = none ↔
      ∀ i < errs.length, NoBreak crit maxiter errs k0 i := by
  induction errs generalizing k0 with
  | nil => simp [newtonExitAux]
  | cons x xs ih =>
    unfold newtonExitAux
    split_ifs with h1 h2
    · exact iff_of_false nofun fun hall => (hall 0 (by simp)).1 h1
    · exact iff_of_false nofun fun hall => (hall 0 (by simp)).2 h2
    · rw [ih]
      refine ⟨fun hall i hi => ?_,
        fun hall i hi => (noBreak_cons_succ ..).mp (hall (i + 1) (by simpa using hi))⟩
      cases i with
      | zero => exact ⟨h1, h2⟩
      | succ i => exact (noBreak_cons_succ ..).mpr (hall i (by simpa using hi))

theorem newtonExit_spec (crit maxiter : ℚ) (errs : List ℚ) (k : ℕ) (e : ℚ) (br : NewtonExit)
    (h : newtonExit crit maxiter errs = some (k, e, br)) :
    1 ≤ k ∧ k ≤ errs.length ∧ e = errs.getD (k - 1) 0 ∧
      (∀ j, 1 ≤ j → j < k → ¬ ((j : ℚ) ≥ maxiter) ∧ ¬ (errs.getD (j - 1) 0 < crit)) ∧
      (br = .maxiter → (k : ℚ) ≥ maxiter) ∧
      (br = .crit → ¬ ((k : ℚ) ≥ maxiter) ∧ e < crit) := by
  obtain ⟨i, hi, rfl, rfl, a4, a5, a6⟩ := newtonExitAux_spec crit maxiter errs 0 k e br h
  refine ⟨by omega, by omega, by simp, fun j h1 h2 => ?_, a5, a6⟩
  obtain ⟨j, rfl⟩ := Nat.exists_eq_add_of_le' h1
  simpa [NoBreak] using a4 j (by omega)

theorem newtonExit_none_iff (crit maxiter : ℚ) (errs : List ℚ) :
    newtonExit crit maxiter errs = none ↔
      ∀ j, 1 ≤ j → j ≤ errs.length →
        ¬ ((j : ℚ) ≥ maxiter) ∧ ¬ (errs.getD (j - 1) 0 < crit) := by
  rw [newtonExit, newtonExitAux_none_iff]
  refine ⟨fun h j h1 h2 => ?_,
    fun h i hi => by simpa [NoBreak] using h (i + 1) (by omega) (by omega)⟩
  obtain ⟨j, rfl⟩ := Nat.exists_eq_add_of_le' h1
  simpa [NoBreak] using h j (by omega)

end QSP
