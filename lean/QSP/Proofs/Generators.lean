/-
  The option / scale / parity bookkeeping of the polynomial generators
  (`QSP/Model/Generators.lean`; properties C14, C17).  The numerical oracles (fit, optimiser value,
  Bessel values, binomial sums) are parameters of the model, so every statement holds for all
  their values.
-/
import QSP.Proofs.Cheb
import QSP.Model.Generators
namespace QSP

deriving instance DecidableEq for GenOut

/-- all coefficients of the parity opposite to `par` are exactly zero -/
def OppZero (par : ℕ) (l : List ℚ) : Prop := ∀ i, i % 2 ≠ par % 2 → l.getD i 0 = 0

theorem oppZero_iff_coeff (par : ℕ) (l : List ℚ) :
    OppZero par l ↔ ∀ i, i % 2 ≠ par % 2 → (toPoly l).coeff i = 0 := by
  simp only [OppZero, toPoly_coeff]

theorem oppZero_nil (par : ℕ) : OppZero par [] := by
  intro i _; simp

theorem oppZero_congr {p q : ℕ} (h : p % 2 = q % 2) {l : List ℚ} (hl : OppZero p l) :
    OppZero q l := fun i hi => hl i (h ▸ hi)

theorem oppZero_iff_bounded (par : ℕ) (l : List ℚ) :
    OppZero par l ↔ ∀ i, i < l.length → i % 2 ≠ par % 2 → l.getD i 0 = 0 := by
  constructor
  · intro h i _ hi; exact h i hi
  · intro h i hi
    by_cases hl : i < l.length
    · exact h i hl hi
    · exact List.getD_eq_default _ _ (Nat.le_of_not_lt hl)

instance (par : ℕ) (l : List ℚ) : Decidable (OppZero par l) :=
  decidable_of_iff _ (oppZero_iff_bounded par l).symm

/-! ### the two sources of exact zeros: the parity mask and `spread` -/

theorem parityPart_getD_eq (q : ℕ) (l : List ℚ) (i j : ℕ) :
    (parityPart q l i).getD j 0 = if (i + j) % 2 = q then l.getD j 0 else 0 := by
  induction l generalizing i j with
  | nil => simp [parityPart]
  | cons c cs ih =>
    cases j with
    | zero => simp [parityPart]
    | succ j =>
      simp only [parityPart, List.getD_cons_succ, ih]
      rw [Nat.add_right_comm, Nat.add_assoc]

/-- up to a trailing zero, `spread` puts each value in a block of two: `[0, v]` (odd) or `[v, 0]` -/
theorem spread_cons_getD (par : ℕ) (v : ℚ) (vs : List ℚ) (i : ℕ) :
    (spread par (v :: vs)).getD i 0 =
      ((if par % 2 = 1 then [0, v] else [v, 0]) ++ spread par vs).getD i 0 := by
  cases vs with
  | cons w ws =>
    rw [spread]
    · split <;> rfl
    · exact List.cons_ne_nil w ws
  | nil =>
    -- the last block of an even `spread` is `[v]`, not `[v, 0]`
    rw [spread, spread, List.append_nil, List.append_nil]
    split
    · rfl
    · rcases i with _ | _ | i <;> rfl

theorem spread_getD_eq (par : ℕ) (vals : List ℚ) (i : ℕ) :
    (spread par vals).getD i 0 = if i % 2 = par % 2 then vals.getD (i / 2) 0 else 0 := by
  induction vals generalizing i with
  | nil => simp [spread]
  | cons v vs ih =>
    rw [spread_cons_getD]
    rcases i with _ | _ | i
    · rcases Nat.mod_two_eq_zero_or_one par with h | h <;> rw [h] <;> rfl
    · rcases Nat.mod_two_eq_zero_or_one par with h | h <;> rw [h] <;> rfl
    · rw [Nat.add_mod_right i 2, show (i + 1 + 1) / 2 = i / 2 + 1 from Nat.add_div_right i two_pos,
        List.getD_cons_succ, ← ih]
      split <;> rfl

theorem spread_oppZero (par : ℕ) (vals : List ℚ) : OppZero par (spread par vals) := by
  intro i hi
  rw [spread_getD_eq, if_neg hi]

/-! ### operations that preserve `OppZero` -/

theorem oppZero_addL (par : ℕ) (a b : List ℚ) (ha : OppZero par a) (hb : OppZero par b) :
    OppZero par (addL a b) := by
  rw [oppZero_iff_coeff] at ha hb ⊢
  intro i hi
  rw [toPoly_addL, Polynomial.coeff_add, ha i hi, hb i hi, add_zero]

theorem T_coeff_opp {K : Type} [CommRing K] (n j : ℕ) (h : j % 2 ≠ n % 2) :
    (Polynomial.Chebyshev.T K n).coeff j = 0 := by
  induction n using Nat.twoStepInduction generalizing j with
  | zero =>
    rw [Nat.cast_zero, Polynomial.Chebyshev.T_zero, Polynomial.coeff_one,
      if_neg fun e => h (congrArg (· % 2) e)]
  | one =>
    rw [Nat.cast_one, Polynomial.Chebyshev.T_one, Polynomial.coeff_X,
      if_neg fun e => h (congrArg (· % 2) e.symm)]
  | more n ih0 ih1 =>
    rw [Nat.cast_add, Nat.cast_ofNat, Polynomial.Chebyshev.T_add_two, Polynomial.coeff_sub,
      ih0 j (Nat.add_mod_right n 2 ▸ h), sub_zero, mul_assoc, Polynomial.coeff_ofNat_mul,
      ← Nat.cast_succ]
    cases j with
    | zero => rw [Polynomial.coeff_X_mul_zero, mul_zero]
    | succ j =>
      rw [Polynomial.coeff_X_mul, ih1 j fun e => h (Nat.ModEq.add_right 1 e), mul_zero]

theorem chebBasis_oppZero (n : ℕ) : OppZero n (chebBasis false n : List ℚ) := by
  rw [oppZero_iff_coeff]
  intro j hj
  rw [chebBasis_T]
  exact T_coeff_opp n j hj

theorem convL_oppZero_add (p q : ℕ) (a b : List ℚ) (ha : OppZero p a) (hb : OppZero q b) :
    OppZero (p + q) (convL a b) := by
  rw [oppZero_iff_coeff] at ha hb ⊢
  intro n hn
  rw [toPoly_convL, Polynomial.coeff_mul]
  refine Finset.sum_eq_zero fun x hx => ?_
  by_cases h1 : x.1 % 2 = p % 2
  · rw [hb x.2 fun h2 => hn (Finset.mem_antidiagonal.mp hx ▸ Nat.ModEq.add h1 h2), mul_zero]
  · rw [ha x.1 h1, zero_mul]

/-! ### what the generators return -/

@[simp] theorem coefList_wrapOut (o : GenOpts) (c : List ℚ) (s : ℚ) :
    (wrapOut o c s).coefList = c := by
  unfold wrapOut; split <;> rfl

theorem wrapOut_eq_withScale {o : GenOpts} {c c' : List ℚ} {s s' : ℚ}
    (h : wrapOut o c s = .withScale c' s') :
    (o.ensureBounded = true ∧ o.returnScale = true) ∧ c' = c ∧ s' = s := by
  unfold wrapOut at h
  split at h
  · rename_i hc
    injection h with h1 h2
    exact ⟨Bool.and_eq_true_iff.mp hc, h1.symm, h2.symm⟩
  · cases h

theorem wrapOut_withScale_iff (o : GenOpts) (c : List ℚ) (s : ℚ) :
    (∃ c' s', wrapOut o c s = .withScale c' s') ↔ (o.ensureBounded && o.returnScale) = true :=
  ⟨fun ⟨_, _, h⟩ => Bool.and_eq_true_iff.mpr (wrapOut_eq_withScale h).1,
    fun h => ⟨c, s, by rw [wrapOut, if_pos h]⟩⟩

theorem coefList_chebFinish (o : GenOpts) (cheb : List ℚ) (scale : ℚ) :
    (chebFinish o cheb scale).coefList =
      if o.chebBasis then (if o.ensureBounded then cheb.map (scale * ·) else cheb)
      else cheb2poly false (if o.ensureBounded then cheb.map (scale * ·) else cheb) := by
  simp [chebFinish]

theorem chebFinish_length (o : GenOpts) (cheb : List ℚ) (scale : ℚ) :
    (chebFinish o cheb scale).coefList.length = cheb.length := by
  rw [coefList_chebFinish]
  split <;> split <;> simp [cheb2poly_length]

/-- the Chebyshev coefficient list of the cosine generator -/
def cosCheb (J : List ℚ) : List ℚ :=
  match J with
  | [] => []
  | j0 :: rest => spread 0 (j0 :: altSigns (rest.map (2 * ·)) true)

theorem cosGenerate_eq (o : GenOpts) (J : List ℚ) :
    cosGenerate o J = chebFinish o (cosCheb J) (1 / 2) := by
  cases J <;> rfl

theorem cosCheb_oppZero (J : List ℚ) : OppZero 0 (cosCheb J) := by
  cases J with
  | nil => exact oppZero_nil 0
  | cons j0 rest => exact spread_oppZero 0 _

theorem coefList_invRectGenerate (rs : Bool) (cInv cRect : List ℚ) (s1 s2 : ℚ) :
    (invRectGenerate rs cInv cRect s1 s2).coefList =
      if cInv.isEmpty || cRect.isEmpty then [] else convL cInv cRect := by
  unfold invRectGenerate
  cases rs <;> rfl

/-! ### options (C17)

  The cosine, sine and 1/x generators are `chebFinish` of a `spread`, so each statement about
  them is the one about `chebFinish`. -/

theorem chebFinish_returnScale_indep (o1 o2 : GenOpts) (cheb : List ℚ) (scale : ℚ)
    (h1 : o1.ensureBounded = o2.ensureBounded) (h2 : o1.chebBasis = o2.chebBasis) :
    (chebFinish o1 cheb scale).coefList = (chebFinish o2 cheb scale).coefList := by
  rw [coefList_chebFinish, coefList_chebFinish, h1, h2]

theorem chebFinish_scale (o : GenOpts) (cheb : List ℚ) (scale : ℚ) (c : List ℚ) (s : ℚ)
    (h : chebFinish o cheb scale = .withScale c s) :
    c = (chebFinish { o with ensureBounded := false } cheb scale).coefList.map (s * ·) ∧
      s = scale := by
  obtain ⟨⟨hb, -⟩, rfl, rfl⟩ := wrapOut_eq_withScale h
  refine ⟨?_, rfl⟩
  rw [coefList_chebFinish, hb, if_pos rfl, if_neg Bool.false_ne_true]
  split
  · rfl
  · exact cheb2poly_map_mul false s cheb

theorem chebFinish_bases_list (o : GenOpts) (cheb : List ℚ) (scale : ℚ) :
    (chebFinish { o with chebBasis := false } cheb scale).coefList =
      cheb2poly false (chebFinish { o with chebBasis := true } cheb scale).coefList := by
  rw [coefList_chebFinish, coefList_chebFinish]
  simp only [Bool.false_eq_true, if_false, if_true]

theorem chebFinish_bases (o : GenOpts) (cheb : List ℚ) (scale : ℚ) :
    toPoly (chebFinish { o with chebBasis := false } cheb scale).coefList =
      chebSum false (chebFinish { o with chebBasis := true } cheb scale).coefList := by
  rw [chebFinish_bases_list, toPoly_cheb2poly]

theorem chebFinish_shape (o : GenOpts) (cheb : List ℚ) (scale : ℚ) :
    (∃ c s, chebFinish o cheb scale = .withScale c s) ↔
      (o.ensureBounded && o.returnScale) = true :=
  wrapOut_withScale_iff o _ _

end QSP
