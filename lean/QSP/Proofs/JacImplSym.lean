/-
  The 2×2 side of the 3×3 recurrences of `gen_poly_jacobian_components` (property C12, Jacobian
  clause).

  A symmetric SU(2)-like matrix `a·1 + x·iX + z·iZ` is a 3-vector `(a, x, z)` (`symM`).  The
  symmetric conjugations `N ↦ P N P` (`P = c·1 + s·iX`) and `N ↦ W N W` (`W = ct·1 + st·iZ`)
  act on that vector by the 3×3 matrices `Rz(c²−s², 2cs)` and `B(ct²−st², 2·ct·st)` of the code;
  the symmetrised one-sided derivative `P' N P + P N P'` (`P' = −s·1 + c·iX`) acts by `2·D`.

  A palindromic product is a nest of such conjugations: `nestG θ N ls rs` conjugates the centre
  `N` outwards, `N ↦ P(a)·(W N W)·P(b)`, with the left factors `a ∈ ls` and the right factors
  `b ∈ rs`, and `UcircPairs` of `ls.reverse ++ rs` or `ls.reverse ++ e :: rs` is such a nest.
  With the pairs `(cos φ, sin φ)` of the same phases on both sides the nest of a symmetric matrix
  is the chain `vecU` of the 3×3 maps at the doubled angles; with the pair at one position
  replaced by its derivative on the left, plus the same on the right, it is the chain with `2·D`
  at that position.
-/
import QSP.Proofs.Jacobian
import QSP.Proofs.JacImplCore

open Matrix Complex
namespace QSP
namespace JacImpl

/-! ## symmetric matrices as 3-vectors -/

/-- `a·1 + x·iX + z·iZ` for `v = (a, x, z)` -/
noncomputable def symM (v : V3 ℝ) : M22 :=
  !![(v.1 : ℂ) + I * (v.2.2 : ℂ), I * (v.2.1 : ℂ); I * (v.2.1 : ℂ), (v.1 : ℂ) - I * (v.2.2 : ℂ)]

/-- the pair of the doubled angle -/
def dblP (h : ℝ × ℝ) : ℝ × ℝ := (h.1 * h.1 - h.2 * h.2, two * h.1 * h.2)

theorem brG_x_symM_im (v : V3 ℝ) : (brG .x (symM v)).im = v.2.1 := by
  have h : brG .x (symM v) = (v.1 : ℂ) + (v.2.1 : ℂ) * I := by
    rw [brG_x]
    simp only [symM, of_apply, cons_val', cons_val_zero, cons_val_one, cons_val_fin_one]
    ring
  rw [h, add_im, ofReal_im, mul_I_im, ofReal_re, zero_add]

theorem rotC_eq_symM (c s : ℝ) : rotC (c : ℂ) (s : ℂ) = symM (c, s, 0) := by
  simp only [rotC, symM, ofReal_zero, mul_zero, add_zero, sub_zero]

theorem diagC_eq_symM (c s : ℝ) : diagC (c : ℂ) (s : ℂ) = symM (c, 0, s) := by
  simp only [diagC, symM, ofReal_zero, mul_zero]

theorem smul_two_symM (v : V3 ℝ) : (2 : ℂ) • symM v = symM (dbl3 v) := by
  simp only [symM, dbl3, two_eq, smul_fin_two, smul_eq_mul]
  refine mat2_congr ?_ ?_ ?_ ?_ <;> push_cast <;> ring

/- In the three conjugation lemmas below the four entries are polynomial identities modulo
   `I * I = -1` (`hI`) and, for the two plain conjugations, `c * c + s * s = 1` (`hC`); the
   off-diagonal entries coincide because the matrices are symmetric. -/
theorem conjW_symM (ct st : ℝ) (h : ct * ct + st * st = 1) (v : V3 ℝ) :
    diagC (ct : ℂ) (st : ℂ) * symM v * diagC (ct : ℂ) (st : ℂ)
      = symM (matVec (bMat (ct * ct - st * st) (two * ct * st)) v) := by
  have hC : (ct : ℂ) * ct + (st : ℂ) * st = 1 := by exact_mod_cast congrArg ((↑) : ℝ → ℂ) h
  have hI := Complex.I_mul_I
  simp only [diagC, symM, matVec, bMat, two, Matrix.mul_fin_two]
  refine mat2_congr ?_ ?_ ?_ ?_ <;> push_cast
  · linear_combination (2 * (ct : ℂ) * st * v.2.2 + (st : ℂ) * st * v.1 + I * st * st * v.2.2) * hI
  · linear_combination (-(I * (v.2.1 : ℂ) * st * st)) * hI + (I * (v.2.1 : ℂ)) * hC
  · linear_combination (-(I * (v.2.1 : ℂ) * st * st)) * hI + (I * (v.2.1 : ℂ)) * hC
  · linear_combination (2 * (ct : ℂ) * st * v.2.2 + (st : ℂ) * st * v.1 - I * st * st * v.2.2) * hI

theorem conjP_symM (c s : ℝ) (h : c * c + s * s = 1) (v : V3 ℝ) :
    rotC (c : ℂ) (s : ℂ) * symM v * rotC (c : ℂ) (s : ℂ)
      = symM (matVec (rzMat (dblP (c, s))) v) := by
  have hC : (c : ℂ) * c + (s : ℂ) * s = 1 := by exact_mod_cast congrArg ((↑) : ℝ → ℂ) h
  have hI := Complex.I_mul_I
  simp only [rotC, symM, matVec, rzMat, dblP, two, Matrix.mul_fin_two]
  refine mat2_congr ?_ ?_ ?_ ?_ <;> push_cast
  · linear_combination (2 * (c : ℂ) * s * v.2.1 + (v.1 : ℂ) * s * s - I * v.2.2 * s * s) * hI
      + (I * (v.2.2 : ℂ)) * hC
  · linear_combination (I * (s : ℂ) * s * v.2.1) * hI
  · linear_combination (I * (s : ℂ) * s * v.2.1) * hI
  · linear_combination (2 * (c : ℂ) * s * v.2.1 + (v.1 : ℂ) * s * s + I * v.2.2 * s * s) * hI
      - (I * (v.2.2 : ℂ)) * hC

theorem dconjP_symM (c s : ℝ) (v : V3 ℝ) :
    rotC (-(s : ℂ)) (c : ℂ) * symM v * rotC (c : ℂ) (s : ℂ)
        + rotC (c : ℂ) (s : ℂ) * symM v * rotC (-(s : ℂ)) (c : ℂ)
      = symM (dbl3 (matVec (dMat (dblP (c, s))) v)) := by
  have hI := Complex.I_mul_I
  simp only [rotC, symM, matVec, dMat, dblP, dbl3, two, Matrix.mul_fin_two, Matrix.of_add_of,
    Matrix.add_cons, Matrix.head_cons, Matrix.tail_cons, Matrix.empty_add_empty]
  refine mat2_congr ?_ ?_ ?_ ?_ <;> push_cast
  · linear_combination (2 * (s : ℂ) * v.1 * c - 2 * I * s * v.2.2 * c - 2 * (s : ℂ) * s * v.2.1
      + 2 * (c : ℂ) * c * v.2.1) * hI
  · linear_combination (2 * (s : ℂ) * I * c * v.2.1) * hI
  · linear_combination (2 * (s : ℂ) * I * c * v.2.1) * hI
  · linear_combination (2 * I * (c : ℂ) * v.2.2 * s + 2 * (c : ℂ) * v.1 * s + 2 * (c : ℂ) * c * v.2.1
      - 2 * (s : ℂ) * s * v.2.1) * hI

/-! ## palindromic products of arbitrary pairs as nests -/

/-- the centre `N` conjugated outwards, `N ↦ P(a)·(W N W)·P(b)`, along the left factors `ls` and
    the right factors `rs` (of equal length wherever it is used) -/
noncomputable def nestG (θ : ℝ) : M22 → List (ℂ × ℂ) → List (ℂ × ℂ) → M22
  | N, a :: ls, b :: rs => nestG θ (rotC a.1 a.2 * (wC θ * N * wC θ) * rotC b.1 b.2) ls rs
  | N, [], _ => N
  | N, _ :: _, [] => N

theorem nestG_add (θ : ℝ) (ls rs : List (ℂ × ℂ)) (N1 N2 : M22) :
    nestG θ (N1 + N2) ls rs = nestG θ N1 ls rs + nestG θ N2 ls rs := by
  induction ls generalizing rs N1 N2 with
  | nil => simp [nestG]
  | cons a ls ih =>
    cases rs with
    | nil => simp [nestG]
    | cons b rs =>
      simp only [nestG, Matrix.mul_add, Matrix.add_mul, ih]

theorem prod_nest (θ : ℝ) (ls rs : List (ℂ × ℂ)) (N : M22) (h : ls.length = rs.length) :
    (ls.reverse.map (stepM θ)).prod * (wC θ * N) * (rs.map (stepM θ)).prod
      = wC θ * nestG θ N ls rs := by
  induction ls generalizing rs N with
  | nil =>
    cases rs with
    | nil => simp [nestG]
    | cons b rs => simp at h
  | cons a ls ih =>
    cases rs with
    | nil => simp at h
    | cons b rs =>
      simp only [List.length_cons, Nat.add_right_cancel_iff] at h
      simp only [List.reverse_cons, List.map_append, List.prod_append, List.map_cons,
        List.prod_cons, List.map_nil, List.prod_nil, mul_one, nestG]
      rw [← ih rs _ h]
      simp only [stepM, Matrix.mul_assoc]

/-- even length: the centre is the signal matrix the product has one too few of -/
theorem UcircPairs_reverse_append (θ : ℝ) (ls rs : List (ℂ × ℂ)) (h : ls.length = rs.length)
    (hne : ls ≠ []) : UcircPairs θ (ls.reverse ++ rs) = nestG θ (wC (-θ)) ls rs := by
  rw [UcircPairs_eq_prod θ _ (by simp [hne]), List.map_append, List.prod_append]
  have h1 := prod_nest θ ls rs (wC (-θ)) h
  rw [wC_mul_neg, Matrix.mul_one] at h1
  rw [h1, ← Matrix.mul_assoc, wC_neg_mul, Matrix.one_mul]

theorem UcircPairs_reverse_append_cons (θ : ℝ) (ls rs : List (ℂ × ℂ)) (e : ℂ × ℂ)
    (h : ls.length = rs.length) :
    UcircPairs θ (ls.reverse ++ e :: rs) = nestG θ (rotC e.1 e.2) ls rs := by
  rw [UcircPairs_eq_prod θ _ (by simp), List.map_append, List.prod_append, List.map_cons,
    List.prod_cons]
  have h1 := prod_nest θ ls rs (rotC e.1 e.2) h
  have h2 : stepM θ e = wC θ * rotC e.1 e.2 := rfl
  rw [h2]
  simp only [Matrix.mul_assoc] at h1 ⊢
  rw [h1, ← Matrix.mul_assoc, wC_neg_mul, Matrix.one_mul]

/-- the derivative of the pair `(cos φ, sin φ)` -/
def dP (h : ℂ × ℂ) : ℂ × ℂ := (-h.2, h.1)

/-! `jacDPairs` on the palindromic lists `H.reverse ++ H` (parity 1) and `H.reverse ++ e :: H`
(parity 0): the derivative pair enters once on the left and once on the right of the nest, or,
for the doubled centre, in the centre with the factor 2. -/

theorem jacDPairs_odd (θ : ℝ) (H : List (ℂ × ℂ)) (j : ℕ) (hj : j < H.length) :
    jacDPairs θ 1 H.length (H.reverse ++ H) j
      = nestG θ (wC (-θ)) (H.set j (dP (H.getD j (1, 0)))) H
        + nestG θ (wC (-θ)) H (H.set j (dP (H.getD j (1, 0)))) := by
  have hne : H ≠ [] := ne_nil_of_lt_length hj
  unfold jacDPairs positions
  simp only [if_true, List.map_cons, List.map_nil, List.sum_cons, List.sum_nil, add_zero,
    Rat.cast_one, Complex.ofReal_one, one_smul]
  rw [getD_reverse_append _ _ _ hj, set_reverse_append _ _ _ hj,
    getD_append_add List.length_reverse, set_append_add List.length_reverse]
  rw [UcircPairs_reverse_append θ _ _ (by simp) (by simpa using hne),
    UcircPairs_reverse_append θ _ _ (by simp) hne]
  rfl

theorem jacDPairs_even_zero (θ : ℝ) (H : List (ℂ × ℂ)) (e : ℂ × ℂ) :
    jacDPairs θ 0 (H.length + 1) (H.reverse ++ e :: H) 0
      = (2 : ℂ) • nestG θ (rotC (dP e).1 (dP e).2) H H := by
  unfold jacDPairs positions
  simp only [zero_ne_one, if_false, if_true, List.map_cons, List.map_nil, List.sum_cons,
    List.sum_nil, add_zero, Nat.add_sub_cancel]
  have h1 := getD_append_add (b := e :: H) (List.length_reverse (as := H)) 0 ((1 : ℂ), (0 : ℂ))
  have h2 := fun a => set_append_add (b := e :: H) (List.length_reverse (as := H)) 0 a
  simp only [Nat.add_zero, List.getD_cons_zero, List.set_cons_zero] at h1 h2
  rw [h1, h2, UcircPairs_reverse_append_cons θ _ _ _ rfl]
  norm_num [dP]

theorem jacDPairs_even_succ (θ : ℝ) (H : List (ℂ × ℂ)) (e : ℂ × ℂ) (i : ℕ) (hi : i < H.length) :
    jacDPairs θ 0 (H.length + 1) (H.reverse ++ e :: H) (i + 1)
      = nestG θ (rotC e.1 e.2) (H.set i (dP (H.getD i (1, 0)))) H
        + nestG θ (rotC e.1 e.2) H (H.set i (dP (H.getD i (1, 0)))) := by
  unfold jacDPairs positions
  simp only [zero_ne_one, if_false, Nat.add_eq_zero_iff, one_ne_zero, and_false, List.map_cons,
    List.map_nil, List.sum_cons, List.sum_nil, add_zero, Rat.cast_one, Complex.ofReal_one,
    one_smul, Nat.add_sub_cancel]
  have e1 : H.length - (i + 1) = H.length - 1 - i := by omega
  rw [e1, getD_reverse_append _ _ _ hi, set_reverse_append _ _ _ hi,
    getD_append_add List.length_reverse, set_append_add List.length_reverse]
  simp only [List.getD_cons_succ, List.set_cons_succ]
  rw [UcircPairs_reverse_append_cons θ _ _ _ (by simp),
    UcircPairs_reverse_append_cons θ _ _ _ (by simp)]
  rfl

/-! ## nests of symmetric matrices at the pairs of real phases are chains -/

/-- the matrix `B` of the code at the sample angle `θ` -/
noncomputable def bTh (θ : ℝ) : Mat3 ℝ :=
  bMat (Real.cos θ * Real.cos θ - Real.sin θ * Real.sin θ) (two * Real.cos θ * Real.sin θ)

/-- what the code feeds to the recurrences: `(cos 2φ_k, sin 2φ_k)` for the reduced phases -/
noncomputable def pairs2Of (red : List ℝ) : List (ℝ × ℝ) :=
  red.map fun x => (Real.cos (2 * x), Real.sin (2 * x))

theorem pairs2Of_cons (x : ℝ) (red : List ℝ) :
    pairs2Of (x :: red) = (Real.cos (2 * x), Real.sin (2 * x)) :: pairs2Of red := rfl

theorem pairs2Of_ne {red : List ℝ} (h : red ≠ []) : pairs2Of red ≠ [] := by
  unfold pairs2Of; simpa using h

theorem pairs2Of_length (red : List ℝ) : (pairs2Of red).length = red.length :=
  List.length_map _

theorem cos_mul_self_add_sin_mul_self (θ : ℝ) :
    Real.cos θ * Real.cos θ + Real.sin θ * Real.sin θ = 1 := by
  rw [← sq, ← sq]; exact Real.cos_sq_add_sin_sq θ

theorem dblP_cos_sin (x : ℝ) :
    dblP (Real.cos x, Real.sin x) = (Real.cos (2 * x), Real.sin (2 * x)) := by
  rw [Real.cos_two_mul, Real.sin_two_mul, dblP, two_eq]
  refine Prod.ext ?_ (mul_right_comm _ _ _)
  linear_combination -(Real.sin_sq_add_cos_sq x)

theorem conjW_wC (θ : ℝ) (v : V3 ℝ) : wC θ * symM v * wC θ = symM (matVec (bTh θ) v) := by
  rw [wC_eq, PzMat_eq]
  exact conjW_symM _ _ (cos_mul_self_add_sin_mul_self θ) v

theorem conjP_prC (φ : ℝ) (v : V3 ℝ) :
    rotC (prC φ).1 (prC φ).2 * symM v * rotC (prC φ).1 (prC φ).2
      = symM (matVec (rzMat (Real.cos (2 * φ), Real.sin (2 * φ))) v) := by
  rw [← dblP_cos_sin]
  exact conjP_symM _ _ (cos_mul_self_add_sin_mul_self φ) v

theorem dconjP_prC (φ : ℝ) (v : V3 ℝ) :
    rotC (dP (prC φ)).1 (dP (prC φ)).2 * symM v * rotC (prC φ).1 (prC φ).2
        + rotC (prC φ).1 (prC φ).2 * symM v * rotC (dP (prC φ)).1 (dP (prC φ)).2
      = symM (dbl3 (matVec (dMat (Real.cos (2 * φ), Real.sin (2 * φ))) v)) := by
  rw [← dblP_cos_sin]
  exact dconjP_symM _ _ v

theorem nestG_val (θ : ℝ) (φs : List ℝ) (v : V3 ℝ) :
    nestG θ (symM v) (φs.map prC) (φs.map prC) = symM (vecU (bTh θ) v (pairs2Of φs)) := by
  induction φs generalizing v with
  | nil => rfl
  | cons φ t ih =>
    simp only [List.map_cons, nestG, pairs2Of_cons, vecU]
    rw [conjW_wC, conjP_prC]
    exact ih _

theorem nestG_dsum (θ : ℝ) (φs : List ℝ) (v : V3 ℝ) (j : ℕ) (hj : j < φs.length) :
    nestG θ (symM v) ((φs.map prC).set j (dP ((φs.map prC).getD j (1, 0)))) (φs.map prC)
      + nestG θ (symM v) (φs.map prC) ((φs.map prC).set j (dP ((φs.map prC).getD j (1, 0))))
      = symM (vecU (bTh θ) (dbl3 (matVec (dMat ((pairs2Of φs).getD j (1, 0)))
          (matVec (bTh θ) (vecU (bTh θ) v ((pairs2Of φs).take j)))))
          ((pairs2Of φs).drop (j + 1))) := by
  induction φs generalizing v j with
  | nil => simp at hj
  | cons φ t ih =>
    cases j with
    | zero =>
      simp only [List.map_cons, List.set_cons_zero, List.getD_cons_zero, nestG, pairs2Of_cons,
        List.take_zero, vecU, List.drop_succ_cons, List.drop_zero]
      rw [← nestG_add, conjW_wC, dconjP_prC, nestG_val]
    | succ j =>
      simp only [List.length_cons, Nat.add_lt_add_iff_right] at hj
      simp only [List.map_cons, List.set_cons_succ, List.getD_cons_succ, nestG, pairs2Of_cons,
        List.take_succ_cons, vecU, List.drop_succ_cons]
      rw [conjW_wC, conjP_prC]
      exact ih _ j hj

end JacImpl
end QSP
