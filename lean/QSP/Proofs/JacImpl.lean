/-
  For the palindromic layouts of both parities, the full product `Ucirc θ (layout par red)` and
  the derivative matrix `jacD θ par red j` (`QSP/Proofs/Jacobian.lean`: the partial derivative
  with respect to reduced phase `j`, `hasDerivAt_layout`) are symmetric matrices `symM v` whose
  3-vectors are the chains of 3×3 maps that `gen_poly_jacobian_components` runs; hence every entry
  of the list the model `jacImplPt` returns is the imaginary part of the `<+|·|+>` corner of the
  corresponding matrix (`jacImplPt_last_brG`, `jacImplPt_col_brG`).
-/
import QSP.Proofs.JacImplSym

open Matrix Complex
namespace QSP
namespace JacImpl

/-! ## the pair lists of the two layouts and their centres -/

theorem layout_prC_odd (red : List ℝ) :
    (layout ((1 : ℕ) : ℤ) red).map prC = (red.map prC).reverse ++ red.map prC := by
  simp only [layout, Nat.cast_one, if_true, List.map_append, List.map_reverse]

theorem layout_prC_even (x : ℝ) (rest : List ℝ) :
    (layout ((0 : ℕ) : ℤ) (x :: rest)).map prC
      = (rest.map prC).reverse ++ prC (2 * x) :: rest.map prC := by
  simp only [layout, Nat.cast_zero, zero_ne_one, if_false, two_eq, List.map_append,
    List.map_reverse, List.map_cons, List.append_assoc, List.cons_append,
    List.nil_append]

theorem wC_neg_symM (θ : ℝ) : wC (-θ) = symM (Real.cos θ, 0, -Real.sin θ) := by
  rw [wC_eq, PzMat_eq, Real.cos_neg, Real.sin_neg]
  exact diagC_eq_symM (Real.cos θ) (-Real.sin θ)

theorem rotC_prC (φ : ℝ) : rotC (prC φ).1 (prC φ).2 = symM (Real.cos φ, Real.sin φ, 0) :=
  rotC_eq_symM (Real.cos φ) (Real.sin φ)

theorem rotC_dP_prC (φ : ℝ) :
    rotC (dP (prC φ)).1 (dP (prC φ)).2 = symM (-Real.sin φ, Real.cos φ, 0) := by
  have h := rotC_eq_symM (-Real.sin φ) (Real.cos φ)
  rwa [Complex.ofReal_neg] at h

/-- the start vector of the chains, `B·w0 = R[:,0]`.  Parity 1: the centre `W(−θ)`; parity 0:
    `B⁻¹·e₁`, so that the first step `Rz(q)·B·w0 = (q.1, q.2, 0)` is the doubled centre
    (`vecU_w0_even`) -/
noncomputable def w0 (par : ℕ) (θ : ℝ) : V3 ℝ :=
  if par = 0 then
    (Real.cos θ * Real.cos θ - Real.sin θ * Real.sin θ, 0, -(two * Real.cos θ * Real.sin θ))
  else (Real.cos θ, 0, -Real.sin θ)

theorem matVec_w0 (par : ℕ) (θ : ℝ) :
    matVec (bTh θ) (w0 par θ) = if par = 0 then (1, 0, 0) else (Real.cos θ, 0, Real.sin θ) := by
  have h := cos_mul_self_add_sin_mul_self θ
  unfold w0 bTh
  split_ifs
  · simp only [matVec, bMat, two, Prod.mk.injEq]
    refine ⟨?_, ?_, ?_⟩
    · linear_combination (Real.cos θ * Real.cos θ + Real.sin θ * Real.sin θ + 1) * h
    · ring
    · ring
  · simp only [matVec, bMat, two, Prod.mk.injEq]
    refine ⟨?_, ?_, ?_⟩
    · linear_combination (Real.cos θ) * h
    · ring
    · linear_combination (Real.sin θ) * h

theorem jacImplPt_eq_core (par : ℕ) (pairs2 : List (ℝ × ℝ)) (hne : pairs2 ≠ []) (θ : ℝ) :
    jacImplPt par pairs2 (Real.cos θ) (Real.sin θ)
      = jacImplCore (bTh θ) (matVec (bTh θ) (w0 par θ)) pairs2 := by
  unfold jacImplPt
  rw [if_neg (by simpa using hne), matVec_w0]
  rfl

/-! ## the full product and the derivative matrices are symmetric, with the code's 3-vectors -/

theorem vecU_w0_even (θ : ℝ) (p : ℝ × ℝ) (ps : List (ℝ × ℝ)) :
    vecU (bTh θ) (w0 0 θ) (p :: ps) = vecU (bTh θ) (p.1, p.2, 0) ps := by
  simp only [vecU, matVec_w0, if_true]
  congr 1
  simp [matVec, rzMat]

theorem Ucirc_layout_symM (par : ℕ) (hpar : par ≤ 1) (red : List ℝ) (hne : red ≠ []) (θ : ℝ) :
    Ucirc θ (layout (par : ℤ) red) = symM (vecU (bTh θ) (w0 par θ) (pairs2Of red)) := by
  rw [Ucirc_eq_pairs]
  by_cases h1 : par = 1
  · subst h1
    rw [layout_prC_odd, UcircPairs_reverse_append θ _ _ rfl (by simpa using hne), wC_neg_symM,
      nestG_val]
    rfl
  · obtain rfl : par = 0 := by omega
    obtain ⟨x, rest, rfl⟩ := List.exists_cons_of_ne_nil hne
    rw [layout_prC_even, UcircPairs_reverse_append_cons θ _ _ _ rfl, rotC_prC, nestG_val,
      pairs2Of_cons, vecU_w0_even]

theorem jacD_symM (par : ℕ) (hpar : par ≤ 1) (red : List ℝ) (θ : ℝ) (j : ℕ)
    (hj : j < red.length) :
    jacD θ par red j
      = symM (vecU (bTh θ) (dbl3 (matVec (dMat ((pairs2Of red).getD j (1, 0)))
          (matVec (bTh θ) (vecU (bTh θ) (w0 par θ) ((pairs2Of red).take j)))))
          ((pairs2Of red).drop (j + 1))) := by
  rw [jacD_eq_jacDPairs]
  by_cases h1 : par = 1
  · subst h1
    rw [layout_prC_odd, ← List.length_map (f := prC),
      jacDPairs_odd θ _ j (by simpa using hj), wC_neg_symM, nestG_dsum θ red _ j hj]
    rfl
  · obtain rfl : par = 0 := by omega
    cases red with
    | nil => simp at hj
    | cons x rest =>
      rw [layout_prC_even, pairs2Of_cons, List.length_cons, ← List.length_map (f := prC)]
      cases j with
      | zero =>
        rw [jacDPairs_even_zero, rotC_dP_prC, nestG_val, smul_two_symM, ← vecU_dbl3]
        simp only [List.getD_cons_zero, List.take_zero, vecU, List.drop_succ_cons, List.drop_zero,
          matVec_w0, if_true]
        congr 3
        simp [matVec, dMat]
      | succ i =>
        simp only [List.length_cons, Nat.add_lt_add_iff_right] at hj
        rw [jacDPairs_even_succ θ _ _ i (by simpa using hj), rotC_prC, nestG_dsum θ rest _ i hj]
        simp only [List.getD_cons_succ, List.take_succ_cons, List.drop_succ_cons]
        rw [vecU_w0_even]

theorem jacImplPt_length (par : ℕ) (red : List ℝ) (hne : red ≠ []) (θ : ℝ) :
    (jacImplPt par (pairs2Of red) (Real.cos θ) (Real.sin θ)).length = red.length + 1 := by
  rw [jacImplPt_eq_core par _ (pairs2Of_ne hne), jacImplCore_length, pairs2Of_length]

theorem jacImplPt_last_brG (par : ℕ) (hpar : par ≤ 1) (red : List ℝ) (hne : red ≠ []) (θ : ℝ) :
    (jacImplPt par (pairs2Of red) (Real.cos θ) (Real.sin θ)).getD red.length 0
      = (brG .x (Ucirc θ (layout (par : ℤ) red))).im := by
  rw [jacImplPt_eq_core par _ (pairs2Of_ne hne), ← pairs2Of_length red,
    jacImplCore_getD_last _ _ _ (pairs2Of_ne hne), Ucirc_layout_symM par hpar red hne,
    brG_x_symM_im]

theorem jacImplPt_col_brG (par : ℕ) (hpar : par ≤ 1) (red : List ℝ) (θ : ℝ) (k : ℕ)
    (hk : k < red.length) :
    (jacImplPt par (pairs2Of red) (Real.cos θ) (Real.sin θ)).getD k 0
      = (brG .x (jacD θ par red k)).im := by
  have hne : red ≠ [] := ne_nil_of_lt_length hk
  rw [jacImplPt_eq_core par _ (pairs2Of_ne hne),
    jacImplCore_getD_lt _ _ _ k (by rw [pairs2Of_length]; exact hk), jacD_symM par hpar red θ k hk,
    brG_x_symM_im]

end JacImpl
end QSP
