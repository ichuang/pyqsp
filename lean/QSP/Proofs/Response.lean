/-
  Property C10: the executable model of `ComputeQSPResponse` (`QSP/Model/Response.lean`)
  against the mathematical definition of the response (`QSP/Proofs/RespDef.lean`), the
  relation between the Wx and Wz conventions, unitarity, and the soundness of the
  enclosure `respBall` (`QSP/Model/Ball.lean`).

  The signal and phase operators occur at four levels, told apart by the suffix: `sigM` / `phM` in the
  model's `M2 R` for valid names, `sigG` / `phaseG` over `ℂ` for any `b` and any pairs `(c, s)`,
  `sigT` / `phaseT` at the centres of the enclosures `respBall` computes with, and `sigDef` / `phaseDef`
  of the definition (`√(1 - a²)`, true cosines and sines).
-/
import QSP.Model.Ball
import QSP.Proofs.RespDef
import QSP.Proofs.Trig
import QSP.Proofs.Ball
import QSP.Proofs.L2Kit

-- the model takes `[Zero R] [One R] [Add R] [Mul R] [Neg R]` together; few lemmas use all five
set_option linter.unusedSectionVars false

open Matrix Complex
open scoped Matrix.Norms.L2Operator
namespace QSP

/-! ## the model for valid names, as pure functions (any coefficient type) -/

section generic
variable {R : Type} [Zero R] [One R] [Add R] [Mul R] [Neg R]

theorem bracket_x (half : R) (U : M2 R) :
    bracket half (some "x") U = .ok (half * (((U.a + U.b) + U.c) + U.d)) := rfl

theorem bracket_z (half : R) (U : M2 R) : bracket half (some "z") U = .ok U.a := rfl

theorem bracket_other (half : R) (m : String) (h1 : m ≠ "x") (h2 : m ≠ "z") (U : M2 R) :
    bracket half (some m) U = .error .response := by
  unfold bracket
  split
  · next h => exact absurd (Option.some.inj h) h1
  · next h => exact absurd (Option.some.inj h) h2
  · rfl

theorem mapM_ok {α β : Type} (f : α → Except Err β) (g : α → β) (hf : ∀ x, f x = .ok (g x))
    (l : List α) : l.mapM f = .ok (l.map g) := by
  induction l with
  | nil => rfl
  | cons x xs ih => rw [List.mapM_cons, hf, ih]; rfl

def conjM (half : R) : SigOp → M2 R → M2 R
  | .Wx, m => m
  | .Wz, m => hconj half m

def sigM (ι half : R) (so : SigOp) (a b : R) : M2 R := conjM half so (sigX ι a b)

def phM (ι half : R) (so : SigOp) (cs : R × R) : M2 R := conjM half so (phaseZ ι cs)

theorem sigOp_name (ι half : R) (so : SigOp) (a b : R) :
    sigOp ι half so.name a b = .ok (sigM ι half so a b) := by
  cases so <;> simp [sigOp, SigOp.name, sigM, conjM]

theorem qspOp_name (ι half : R) (so : SigOp) (cs : R × R) :
    qspOp ι half so.name cs = .ok (phM ι half so cs) := by
  cases so <;> simp [qspOp, SigOp.name, phM, conjM]

theorem defaultMeas_name (so : SigOp) (me : Option Meas) :
    defaultMeas so.name (me.map Meas.name) = some (me.getD so.defaultMeas).name := by
  cases so <;> cases me <;> simp [defaultMeas, SigOp.name, SigOp.defaultMeas, Meas.name]

theorem response_name (ι half : R) (so : SigOp) (meas : Option String) (p : R × R)
    (ps : List (R × R)) (a b : R) :
    response ι half so.name meas (p :: ps) a b
      = bracket half (defaultMeas so.name meas)
          (respProd (sigM ι half so a b) (phM ι half so p) (ps.map (phM ι half so))) := by
  unfold response
  rw [sigOp_name, mapM_ok _ _ (qspOp_name ι half so)]
  rfl

/-- the code raises `IndexError` at `pmats[0]` -/
theorem response_nil (ι half : R) (so : SigOp) (meas : Option String) (a b : R) :
    response ι half so.name meas [] a b = .error .other := by
  unfold response
  rw [sigOp_name]
  rfl

end generic

/-! ## from the model's 2×2 structures to complex matrices -/

section bridge
variable {R : Type} [Zero R] [One R] [Add R] [Mul R] [Neg R]

/-- not a `RingHom`: `R` carries only the five operations the model uses -/
structure HomLike (f : R → ℂ) : Prop where
  zero : f 0 = 0
  one : f 1 = 1
  add : ∀ x y, f (x + y) = f x + f y
  mul : ∀ x y, f (x * y) = f x * f y
  neg : ∀ x, f (-x) = -f x

theorem homLike_id : HomLike (fun z : ℂ => z) := ⟨rfl, rfl, fun _ _ => rfl, fun _ _ => rfl,
  fun _ => rfl⟩

/-- the complex matrix of a model matrix, entry by entry along `f` -/
noncomputable def toM22 (f : R → ℂ) (m : M2 R) : M22 := !![f m.a, f m.b; f m.c, f m.d]

variable {f : R → ℂ}

theorem toM22_mul (hf : HomLike f) (x y : M2 R) :
    toM22 f (x.mul y) = toM22 f x * toM22 f y := by
  simp only [toM22, M2.mul, mul_fin_two, hf.add, hf.mul]

theorem toM22_had (hf : HomLike f) : toM22 f (M2.had : M2 R) = had2 := by
  simp only [toM22, M2.had, had2, hf.one, hf.neg]

theorem toM22_scale (hf : HomLike f) (k : R) (m : M2 R) :
    toM22 f (M2.scale k m) = f k • toM22 f m := by
  simp only [toM22, M2.scale, hf.mul, smul_fin_two, smul_eq_mul]

theorem toM22_hconj (hf : HomLike f) (half : R) (hh : f half = 1 / 2) (m : M2 R) :
    toM22 f (hconj half m) = HadMat * toM22 f m * HadMat := by
  rw [had_conj_eq, hconj, toM22_scale hf, toM22_mul hf, toM22_mul hf, toM22_had hf, hh]

noncomputable def conjH : SigOp → M22 → M22
  | .Wx, M => M
  | .Wz, M => HadMat * M * HadMat

noncomputable def sigG (so : SigOp) (a b : ℂ) : M22 := conjH so (rotC a b)

noncomputable def phaseG (so : SigOp) (cs : ℂ × ℂ) : M22 := conjH so (diagC cs.1 cs.2)

/-- `Udef` with any `b` in place of `√(1 - a²)` and any pairs `(c, s)` in place of `(cos φ, sin φ)`:
    what the model computes, whatever its coefficients -/
noncomputable def UG (so : SigOp) (a b : ℂ) : List (ℂ × ℂ) → M22
  | [] => 1
  | p :: ps => ps.foldl (fun U q => U * sigG so a b * phaseG so q) (phaseG so p)

/-- the bracket `<m| U |m>` of any matrix (`respDef` is `brG` of `Udef`); `brG .x` is the `|+>` corner -/
noncomputable def brG (me : Meas) (U : M22) : ℂ := ketDef me ⬝ᵥ (U *ᵥ ketDef me)

theorem toM22_sigX (hf : HomLike f) (ι : R) (hι : f ι = I) (a b : R) :
    toM22 f (sigX ι a b) = rotC (f a) (f b) := by
  simp only [toM22, sigX, rotC, hf.mul, hι]

theorem toM22_phaseZ (hf : HomLike f) (ι : R) (hι : f ι = I) (cs : R × R) :
    toM22 f (phaseZ ι cs) = diagC (f cs.1) (f cs.2) := by
  simp only [toM22, phaseZ, diagC, hf.mul, hf.add, hf.neg, hf.zero, hι, sub_eq_add_neg]

theorem toM22_conjM (hf : HomLike f) (half : R) (hh : f half = 1 / 2) (so : SigOp) (m : M2 R) :
    toM22 f (conjM half so m) = conjH so (toM22 f m) := by
  cases so
  · rfl
  · exact toM22_hconj hf half hh m

theorem toM22_sigM (hf : HomLike f) (ι half : R) (hι : f ι = I) (hh : f half = 1 / 2)
    (so : SigOp) (a b : R) : toM22 f (sigM ι half so a b) = sigG so (f a) (f b) := by
  rw [sigM, toM22_conjM hf half hh, toM22_sigX hf ι hι, sigG]

theorem toM22_phM (hf : HomLike f) (ι half : R) (hι : f ι = I) (hh : f half = 1 / 2)
    (so : SigOp) (cs : R × R) : toM22 f (phM ι half so cs) = phaseG so (f cs.1, f cs.2) := by
  rw [phM, toM22_conjM hf half hh, toM22_phaseZ hf ι hι, phaseG]

theorem toM22_respProd (hf : HomLike f) (W U : M2 R) (Ps : List (M2 R)) :
    toM22 f (respProd W U Ps)
      = Ps.foldl (fun V P => V * toM22 f W * toM22 f P) (toM22 f U) := by
  induction Ps generalizing U with
  | nil => rfl
  | cons P Ps ih =>
    simp only [respProd, List.foldl_cons]
    rw [ih, toM22_mul hf, toM22_mul hf]

theorem brG_z (U : M22) : brG .z U = U 0 0 := by
  simp [brG, ketDef, dotProduct, mulVec, Fin.sum_univ_two]

theorem brG_x (U : M22) : brG .x U = (1 / 2 : ℂ) * (((U 0 0 + U 0 1) + U 1 0) + U 1 1) := by
  have h := inv_sqrt_two_sq
  simp only [brG, ketDef, dotProduct, mulVec, Fin.sum_univ_two, Pi.smul_apply, smul_eq_mul,
    Matrix.cons_val_zero, Matrix.cons_val_one]
  generalize ((1 / Real.sqrt 2 : ℝ) : ℂ) = k at h ⊢
  linear_combination (((U 0 0 + U 0 1) + U 1 0) + U 1 1) * h

theorem brG_add (me : Meas) (A B : M22) : brG me (A + B) = brG me A + brG me B := by
  unfold brG
  rw [Matrix.add_mulVec, dotProduct_add]

theorem brG_zero (me : Meas) : brG me (0 : M22) = 0 := by
  unfold brG
  rw [Matrix.zero_mulVec, dotProduct_zero]

theorem brG_smul (me : Meas) (k : ℂ) (A : M22) : brG me (k • A) = k * brG me A := by
  unfold brG
  rw [Matrix.smul_mulVec, dotProduct_smul, smul_eq_mul]

theorem brG_sub (me : Meas) (A B : M22) : brG me (A - B) = brG me A - brG me B := by
  unfold brG
  rw [Matrix.sub_mulVec, dotProduct_sub]

theorem bracket_toC (hf : HomLike f) (half : R) (hh : f half = 1 / 2) (me : Meas) (U : M2 R) :
    ∃ r, bracket half (some me.name) U = .ok r ∧ f r = brG me (toM22 f U) := by
  cases me
  · refine ⟨_, bracket_x half U, ?_⟩
    rw [brG_x, hf.mul, hf.add, hf.add, hf.add, hh]
    simp [toM22]
  · refine ⟨_, bracket_z half U, ?_⟩
    rw [brG_z]
    simp [toM22]

theorem response_toC (hf : HomLike f) (ι half : R) (hι : f ι = I) (hh : f half = 1 / 2)
    (so : SigOp) (me : Option Meas) (p : R × R) (ps : List (R × R)) (a b : R) :
    ∃ r, response ι half so.name (me.map Meas.name) (p :: ps) a b = .ok r ∧
      f r = brG (me.getD so.defaultMeas)
        (UG so (f a) (f b) ((p :: ps).map (fun q : R × R => (f q.1, f q.2)))) := by
  rw [response_name, defaultMeas_name]
  obtain ⟨r, h1, h2⟩ := bracket_toC hf half hh (me.getD so.defaultMeas)
    (respProd (sigM ι half so a b) (phM ι half so p) (ps.map (phM ι half so)))
  refine ⟨r, h1, ?_⟩
  rw [h2, toM22_respProd hf]
  simp only [UG, List.map_cons, List.foldl_map, toM22_sigM hf ι half hι hh,
    toM22_phM hf ι half hι hh]

end bridge

/-! ## the generic product at the true cosines / sines is the definition -/

theorem sigG_eq_sigDef (so : SigOp) (a : ℝ) :
    sigG so (a : ℂ) ((Real.sqrt (1 - a ^ 2) : ℝ) : ℂ) = sigDef so a := by
  cases so <;> rfl

theorem phaseG_eq_phaseDef (so : SigOp) (φ : ℝ) :
    phaseG so (((Real.cos φ : ℝ) : ℂ), ((Real.sin φ : ℝ) : ℂ)) = phaseDef so φ := by
  cases so <;> simp only [phaseG, conjH, phaseDef, PzMat_eq]

theorem UG_eq_Udef (so : SigOp) (a : ℝ) (φs : List ℝ) :
    UG so (a : ℂ) ((Real.sqrt (1 - a ^ 2) : ℝ) : ℂ)
      (φs.map (fun φ : ℝ => (((Real.cos φ : ℝ) : ℂ), ((Real.sin φ : ℝ) : ℂ)))) = Udef so a φs := by
  cases φs with
  | nil => rfl
  | cons φ φs =>
    simp only [UG, Udef, List.map_cons, List.foldl_map, sigG_eq_sigDef, phaseG_eq_phaseDef]

/-! ## Wx and Wz conventions -/

theorem Udef_Wz (a : ℝ) (φs : List ℝ) : Udef .Wz a φs = HadMat * Udef .Wx a φs * HadMat := by
  cases φs with
  | nil => simp only [Udef, Matrix.mul_one, HadMat_mul_self]
  | cons φ φs =>
    refine List.foldl_hom (fun X => HadMat * X * HadMat) (H := fun U ψ => ?_)
    simp only [sigDef, phaseDef, Matrix.mul_assoc, had_cancel]

theorem had2_conj (M : M22) : had2 * M * had2
    = !![M 0 0 + M 0 1 + M 1 0 + M 1 1, M 0 0 - M 0 1 + M 1 0 - M 1 1;
         M 0 0 + M 0 1 - M 1 0 - M 1 1, M 0 0 - M 0 1 - M 1 0 + M 1 1] := by
  rw [had2, eta_fin_two M, mul_fin_two, mul_fin_two]
  simp only [of_apply, cons_val_zero, cons_val_one, cons_val', cons_val_fin_one]
  refine mat2_congr ?_ ?_ ?_ ?_ <;> ring

theorem brG_z_had (M : M22) : brG .z (HadMat * M * HadMat) = brG .x M := by
  rw [brG_z, brG_x, had_conj_eq, had2_conj, smul_fin_two]
  rfl

theorem brG_x_had (M : M22) : brG .x (HadMat * M * HadMat) = brG .z M := by
  rw [brG_z, brG_x, had_conj_eq, had2_conj, smul_fin_two]
  simp only [of_apply, cons_val_zero, cons_val_one, cons_val', cons_val_fin_one, smul_eq_mul]
  ring

theorem respDef_eq_brG (so : SigOp) (me : Meas) (φs : List ℝ) (a : ℝ) :
    respDef so me φs a = brG me (Udef so a φs) := rfl

theorem resp_Wx_x_eq_Wz_z (φs : List ℝ) (a : ℝ) : respDef .Wx .x φs a = respDef .Wz .z φs a := by
  rw [respDef_eq_brG, respDef_eq_brG, Udef_Wz, brG_z_had]

theorem resp_Wz_x_eq_Wx_z (φs : List ℝ) (a : ℝ) : respDef .Wz .x φs a = respDef .Wx .z φs a := by
  rw [respDef_eq_brG, respDef_eq_brG, Udef_Wz, brG_x_had]

/-! ## unitarity -/

theorem sigDef_unitary (so : SigOp) (a : ℝ) (ha : a ∈ Set.Icc (-1 : ℝ) 1) :
    sigDef so a ∈ unitaryGroup (Fin 2) ℂ := by
  cases so
  · exact WxMat_unitary a ha
  · exact had_conj_unitary (WxMat_unitary a ha)

theorem phaseDef_unitary (so : SigOp) (φ : ℝ) : phaseDef so φ ∈ unitaryGroup (Fin 2) ℂ := by
  cases so
  · exact PzMat_unitary φ
  · exact had_conj_unitary (PzMat_unitary φ)

theorem Udef_mem_unitaryGroup (so : SigOp) (a : ℝ) (ha : a ∈ Set.Icc (-1 : ℝ) 1) (φs : List ℝ) :
    Udef so a φs ∈ unitaryGroup (Fin 2) ℂ := by
  cases φs with
  | nil => exact one_mem _
  | cons φ φs =>
    exact List.foldlRecOn φs _ (phaseDef_unitary so φ) fun U hU ψ _ =>
      mul_mem (mul_mem hU (sigDef_unitary so a ha)) (phaseDef_unitary so ψ)

/-! ## the Wz convention as X rotations and diagonal signals -/

theorem phaseDef_Wz (φ : ℝ) : phaseDef .Wz φ = rotC (Real.cos φ) (Real.sin φ) := by
  simp only [phaseDef, PzMat_eq, had_conj_diagC]

theorem sigDef_Wz_cos (θ : ℝ) (hθ : 0 ≤ Real.sin θ) : sigDef .Wz (Real.cos θ) = wC θ := by
  have h : Real.sqrt (1 - Real.cos θ ^ 2) = Real.sin θ := by
    rw [← Real.sin_sq, Real.sqrt_sq hθ]
  simp only [sigDef, WxMat_eq, h, had_conj_rotC, wC_eq, PzMat_eq]

theorem Udef_Wz_eq_prod (θ : ℝ) (hθ : 0 ≤ Real.sin θ) (φ : ℝ) (φs : List ℝ) :
    Udef .Wz (Real.cos θ) (φ :: φs)
      = φs.foldl (fun U ψ => U * (wC θ * rotC (Real.cos ψ) (Real.sin ψ)))
          (rotC (Real.cos φ) (Real.sin φ)) := by
  simp only [Udef, phaseDef_Wz, sigDef_Wz_cos θ hθ, Matrix.mul_assoc]

theorem respDef_Wz_z (φs : List ℝ) (a : ℝ) : respDef .Wz .z φs a = (Udef .Wz a φs) 0 0 := by
  rw [respDef_eq_brG, brG_z]

/-! ## soundness of the enclosure `respBall` -/

def Cx.toC (z : Cx) : ℂ := QSP.toC (z.re, z.im)

theorem Cx.zero_def : (0 : Cx) = ⟨0, 0⟩ := rfl
theorem Cx.one_def : (1 : Cx) = ⟨1, 0⟩ := rfl
theorem Cx.add_def (x y : Cx) : x + y = ⟨x.re + y.re, x.im + y.im⟩ := rfl
theorem Cx.neg_def (x : Cx) : -x = ⟨-x.re, -x.im⟩ := rfl
theorem Cx.mul_def (x y : Cx) :
    x * y = ⟨x.re * y.re - x.im * y.im, x.re * y.im + x.im * y.re⟩ := rfl

theorem Cx.toC_ofRat (q : ℚ) : Cx.toC (Cx.ofRat q) = ((q : ℝ) : ℂ) := by
  apply Complex.ext <;> simp [Cx.toC, Cx.ofRat]

theorem Cx.toC_I : Cx.toC Cx.I = Complex.I := by
  apply Complex.ext <;> simp [Cx.toC, Cx.I]

theorem Cx.toC_half : Cx.toC (Cx.ofRat (1 / 2)) = 1 / 2 := by
  rw [Cx.toC_ofRat]
  push_cast
  rfl

/-- `+`, `*` of `Cx` are `CQ.add`, `CQ.mul` on the pairs `(re, im)` -/
theorem homLike_toC : HomLike Cx.toC where
  zero := Complex.ext (by exact Rat.cast_zero) (by exact Rat.cast_zero)
  one := Complex.ext (by exact Rat.cast_one) (by exact Rat.cast_zero)
  add x y := toC_add (x.re, x.im) (y.re, y.im)
  mul x y := toC_mul (x.re, x.im) (y.re, y.im)
  neg x := Complex.ext (by exact Rat.cast_neg _) (by exact Rat.cast_neg _)

theorem conjH_sub (so : SigOp) (A B : M22) : conjH so (A - B) = conjH so A - conjH so B := by
  cases so
  · rfl
  · simp only [conjH, Matrix.mul_sub, Matrix.sub_mul]

theorem norm_conjH_le (so : SigOp) (M : M22) : ‖conjH so M‖ ≤ ‖M‖ := by
  cases so
  · exact le_rfl
  · exact (norm_had_conj M).le

theorem norm_phaseG_sub_le (so : SigOp) (p p' : ℂ × ℂ) :
    ‖phaseG so p - phaseG so p'‖ ≤ ‖p.1 - p'.1‖ + ‖p.2 - p'.2‖ := by
  unfold phaseG
  rw [← conjH_sub, diagC_sub]
  exact (norm_conjH_le _ _).trans (norm_diagC_le _ _)

theorem norm_sigG_sub_le (so : SigOp) (a b b' : ℂ) : ‖sigG so a b - sigG so a b'‖ ≤ ‖b - b'‖ := by
  unfold sigG
  rw [← conjH_sub, rotC_sub]
  refine (norm_conjH_le _ _).trans ((norm_rotC_le _ _).trans ?_)
  simp

theorem norm_phaseDef_le (so : SigOp) (φ : ℝ) : ‖phaseDef so φ‖ ≤ 1 :=
  norm_le_one_of_unitary (phaseDef_unitary so φ)

theorem norm_sigDef_le (so : SigOp) (a : ℝ) (ha : a ∈ Set.Icc (-1 : ℝ) 1) : ‖sigDef so a‖ ≤ 1 :=
  norm_le_one_of_unitary (sigDef_unitary so a ha)

/-- the phase operator `respBall` computes with, at the centre of `trigEncl q bits` -/
noncomputable def phaseT (so : SigOp) (bits : ℕ) (q : ℚ) : M22 :=
  phaseG so ((((trigEncl q bits).c : ℝ) : ℂ), (((trigEncl q bits).s : ℝ) : ℂ))

/-- the signal operator `respBall` computes with, `sqrtLo` standing for `√(1 - a²)` -/
noncomputable def sigT (so : SigOp) (bits : ℕ) (a : ℚ) : M22 :=
  sigG so ((a : ℝ) : ℂ) (((sqrtLo (1 - a * a) bits : ℚ) : ℝ) : ℂ)

theorem phase_err (so : SigOp) (bits : ℕ) (q : ℚ) :
    ‖phaseDef so (q : ℝ) - phaseT so bits q‖ ≤ 2 * ((trigEncl q bits).δ : ℝ) := by
  obtain ⟨hc, hs⟩ := trigEncl_sound q bits
  rw [← phaseG_eq_phaseDef, phaseT]
  refine (norm_phaseG_sub_le _ _ _).trans ?_
  simp only
  rw [← Complex.ofReal_sub, ← Complex.ofReal_sub, Complex.norm_real, Complex.norm_real,
    Real.norm_eq_abs, Real.norm_eq_abs]
  linarith

theorem sig_err (so : SigOp) (bits : ℕ) (a : ℚ) (ha : (a : ℝ) ∈ Set.Icc (-1 : ℝ) 1) :
    ‖sigDef so (a : ℝ) - sigT so bits a‖ ≤ ((1 / (2 : ℚ) ^ bits : ℚ) : ℝ) := by
  have hq : (0 : ℚ) ≤ 1 - a * a :=
    sub_nonneg.mpr (abs_le_one_iff_mul_self_le_one.mp
      (abs_le.mpr ⟨by exact_mod_cast ha.1, by exact_mod_cast ha.2⟩))
  obtain ⟨_, hlo, hhi⟩ := sqrtLo_sound (1 - a * a) bits hq
  have e : ((1 - a * a : ℚ) : ℝ) = 1 - (a : ℝ) ^ 2 := by
    rw [Rat.cast_sub, Rat.cast_one, Rat.cast_mul, sq]
  rw [e] at hlo hhi
  rw [← sigG_eq_sigDef, sigT]
  refine (norm_sigG_sub_le _ _ _ _).trans ?_
  rw [← Complex.ofReal_sub, Complex.norm_real, Real.norm_eq_abs, abs_of_nonneg (sub_nonneg.mpr hlo),
    Rat.cast_div, Rat.cast_one, Rat.cast_pow, Rat.cast_ofNat]
  exact sub_le_iff_le_add'.mpr hhi

/-- the product of the enclosure centres against the product of the definition: the factors are
    `W P_k` against `W̃ P̃_k` (`factor_bound`), which is what `respBounds` lists -/
theorem UG_err (so : SigOp) (bits : ℕ) (a : ℚ) (ha : (a : ℝ) ∈ Set.Icc (-1 : ℝ) 1) (q : ℚ)
    (qs : List ℚ) :
    ‖Udef so (a : ℝ) ((q :: qs).map (fun x : ℚ => (x : ℝ)))
        - qs.foldl (fun U x => U * sigT so bits a * phaseT so bits x) (phaseT so bits q)‖
      ≤ (((prodErr (respBounds (1 / (2 : ℚ) ^ bits) (enclList bits (q :: qs))) (1, 0)).2 : ℚ) : ℝ) := by
  have hW := norm_sigDef_le so (a : ℝ) ha
  have hWe := sig_err so bits a ha
  have hP' := fun x : ℚ => norm_le_one_add (norm_phaseDef_le so x) (phase_err so bits x)
  generalize (1 / (2 : ℚ) ^ bits : ℚ) = w at hWe ⊢
  have key := (prodErr_foldl (fun x : ℚ => sigDef so a * phaseDef so x)
    (fun x => sigT so bits a * phaseT so bits x)
    (fun x => ((1 + w) * (1 + 2 * (trigEncl x bits).δ),
      w * (1 + 2 * (trigEncl x bits).δ) + 2 * (trigEncl x bits).δ)) qs
    (fun x _ => by
      have := factor_bound hW hWe (phase_err so bits x) (hP' x)
      push_cast
      exact this)
    (phaseDef so q) (phaseT so bits q) (1 + 2 * (trigEncl q bits).δ) (2 * (trigEncl q bits).δ)
    (by push_cast; exact hP' q) (by push_cast; exact phase_err so bits q)).2.1
  simpa only [Udef, enclList, List.map_cons, List.foldl_map, respBounds, Encl.rotBound,
    prodErr_cons, one_mul, zero_mul, zero_add, List.map_map, Function.comp_def, Matrix.mul_assoc]
    using key

theorem respBall_cons (so : SigOp) (me : Option Meas) (bits : ℕ) (a q : ℚ) (qs : List ℚ) :
    ∃ r, respBall so.name (me.map Meas.name) bits a (q :: qs)
        = .ok (r, (prodErr (respBounds (1 / (2 : ℚ) ^ bits) (enclList bits (q :: qs))) (1, 0)).2) ∧
      Cx.toC r = brG (me.getD so.defaultMeas)
        (qs.foldl (fun U x => U * sigT so bits a * phaseT so bits x) (phaseT so bits q)) := by
  obtain ⟨r, h1, h2⟩ := response_toC homLike_toC Cx.I (Cx.ofRat (1 / 2)) Cx.toC_I Cx.toC_half so me
    (Cx.ofRat (trigEncl q bits).c, Cx.ofRat (trigEncl q bits).s)
    ((qs.map (fun x => trigEncl x bits)).map (fun e => (Cx.ofRat e.c, Cx.ofRat e.s)))
    (Cx.ofRat a) (Cx.ofRat (sqrtLo (1 - a * a) bits))
  refine ⟨r, ?_, ?_⟩
  · simp only [respBall, enclList, List.map_cons]
    rw [h1]
    rfl
  · simpa only [UG, List.map_cons, List.foldl_map, Cx.toC_ofRat, sigT, phaseT] using h2

theorem respBall_sound (so : SigOp) (me : Option Meas) (bits : ℕ) (a : ℚ)
    (ha : (a : ℝ) ∈ Set.Icc (-1 : ℝ) 1) (φs : List ℚ) (z : Cx) (E : ℚ)
    (h : respBall so.name (me.map Meas.name) bits a φs = .ok (z, E)) :
    ‖(⟨(z.re : ℝ), (z.im : ℝ)⟩ : ℂ)
        - respDef so (me.getD so.defaultMeas) (φs.map (fun q : ℚ => (q : ℝ))) (a : ℝ)‖
      ≤ (E : ℝ) := by
  cases φs with
  | nil =>
    simp only [respBall, enclList, List.map_nil, response_nil] at h
    cases h
  | cons q qs =>
    obtain ⟨r, h1, h2⟩ := respBall_cons so me bits a q qs
    cases h1.symm.trans h
    rw [show (⟨(z.re : ℝ), (z.im : ℝ)⟩ : ℂ) = Cx.toC z from rfl, h2, respDef_eq_brG, ← brG_sub]
    refine (norm_bracket_le _ _).trans ?_
    rw [norm_sub_rev]
    exact UG_err so bits a ha q qs

theorem respBall_sound_rat (so : SigOp) (me : Option Meas) (bits : ℕ) (a : ℚ)
    (ha : -1 ≤ a ∧ a ≤ 1) (φs : List ℚ) (z : Cx) (E : ℚ)
    (h : respBall so.name (me.map Meas.name) bits a φs = .ok (z, E)) :
    ‖(⟨(z.re : ℝ), (z.im : ℝ)⟩ : ℂ)
        - respDef so (me.getD so.defaultMeas) (φs.map (fun q : ℚ => (q : ℝ))) (a : ℝ)‖
      ≤ (E : ℝ) :=
  respBall_sound so me bits a ⟨by exact_mod_cast ha.1, by exact_mod_cast ha.2⟩ φs z E h

theorem respBall_total (so : SigOp) (me : Option Meas) (bits : ℕ) (a : ℚ) (φs : List ℚ)
    (hφ : φs ≠ []) : ∃ z E, respBall so.name (me.map Meas.name) bits a φs = .ok (z, E) := by
  cases φs with
  | nil => exact absurd rfl hφ
  | cons q qs =>
    obtain ⟨r, h1, -⟩ := respBall_cons so me bits a q qs
    exact ⟨r, _, h1⟩

end QSP
