/-
  Property C03c — the specification of the root finder in `_fg_completion` is SATISFIABLE: the
  last link of "the exact-arithmetic algorithm cannot fail" (C03 / C04).

  `np.roots` is applied to a self-reciprocal polynomial `p` of degree `2n` (`z^n (1 - F F~)`) with
  non-zero extreme coefficients and no root on the unit circle (for 1-norm `< 1`: C03d for `p` as
  a `Polynomial ℂ`; `C03b.feasible_no_unit_roots` says the same of the Laurent polynomial
  `1 - F F~`, the two are not connected by a theorem).
  `C04b.completeFG_sound` is `F F~ + G G~ = 1` when the roots `np.roots` returns have the form
  `S ∪ S⁻¹`, i.e. `p = lead · recipProd S`
  (`recipProd S = ∏_{s ∈ S} (X - s)(X - 1/s)`).  Here: such a list `S` EXISTS, with `n` entries,
  all in the open punctured unit disc.

  Proofs: `QSP/Proofs/RootSpec.lean` (induction on `n`, splitting off a root pair `{r, 1/r}`; the
  quotient is self-reciprocal because `Polynomial.reverse` is multiplicative over a domain).
  That `z^n (1 - F F~)` of a real list `F` (as a `Polynomial ℂ`) meets the hypotheses is
  property C03d (`QSP/Properties/C03d.lean`).
-/
import QSP.Proofs.RootSpec
import Mathlib.Tactic.NormNum
open Polynomial
namespace QSP.C03c
open QSP

/-- self-reciprocity in the form `Polynomial.reverse p = p` -/
theorem root_spec_satisfiable_reverse (n : ℕ) (p : ℂ[X]) (hd : p.natDegree = 2 * n)
    (hrev : p.reverse = p) (h0 : p.coeff 0 ≠ 0) (hunit : ∀ z : ℂ, ‖z‖ = 1 → p.eval z ≠ 0) :
    ∃ S : List ℂ, S.length = n ∧ (∀ s ∈ S, s ≠ 0 ∧ ‖s‖ < 1) ∧
      p = C p.leadingCoeff * recipProd S :=
  RootSpec.exists_recipProd n p hd hrev h0 hunit

/-- self-reciprocity as coefficient symmetry `p_k = p_{2n-k}` -/
theorem root_spec_satisfiable (n : ℕ) (p : ℂ[X]) (hd : p.natDegree = 2 * n)
    (hsym : ∀ k ≤ 2 * n, p.coeff k = p.coeff (2 * n - k)) (h0 : p.coeff 0 ≠ 0)
    (hunit : ∀ z : ℂ, ‖z‖ = 1 → p.eval z ≠ 0) :
    ∃ S : List ℂ, S.length = n ∧ (∀ s ∈ S, s ≠ 0 ∧ ‖s‖ < 1) ∧
      p = C p.leadingCoeff * recipProd S :=
  RootSpec.exists_recipProd n p hd (RootSpec.reverse_eq_self_of_coeff hd hsym) h0 hunit

/-- the inverse of a non-zero root of a self-reciprocal polynomial is a root -/
theorem isRoot_inv {p : ℂ[X]} (hrev : p.reverse = p) {r : ℂ} (hr : r ≠ 0) (h : p.IsRoot r) :
    p.IsRoot r⁻¹ := RootSpec.isRoot_inv hrev hr h

/-- the pair factor `(X - r)(X - 1/r)` is self-reciprocal -/
theorem reverse_pair (r : ℂ) (hr : r ≠ 0) :
    ((X - C r) * (X - C r⁻¹) : ℂ[X]).reverse = (X - C r) * (X - C r⁻¹) :=
  RootSpec.reverse_pair r hr

/-! ### non-vacuity -/

/-- the hypotheses are met by `(X - 1/2)(X - 2) = X² - 5/2 X + 1` (`n = 1`) -/
example :
    let p : ℂ[X] := (X - C (1/2)) * (X - C (1/2 : ℂ)⁻¹)
    p.natDegree = 2 * 1 ∧ p.reverse = p ∧ p.coeff 0 ≠ 0 ∧ ∀ z : ℂ, ‖z‖ = 1 → p.eval z ≠ 0 := by
  intro p
  have h2 : ((1 / 2 : ℂ))⁻¹ = 2 := by norm_num
  refine ⟨?_, reverse_pair (1/2) (by norm_num), ?_, ?_⟩
  · show ((X - C (1/2)) * (X - C (1/2 : ℂ)⁻¹) : ℂ[X]).natDegree = 2
    rw [natDegree_mul (X_sub_C_ne_zero _) (X_sub_C_ne_zero _), natDegree_X_sub_C, natDegree_X_sub_C]
  · show ((X - C (1/2)) * (X - C (1/2 : ℂ)⁻¹) : ℂ[X]).coeff 0 ≠ 0
    rw [coeff_zero_eq_eval_zero, h2]; simp
  · intro z hz
    show ((X - C (1/2)) * (X - C (1/2 : ℂ)⁻¹) : ℂ[X]).eval z ≠ 0
    rw [h2, eval_mul, eval_sub, eval_sub, eval_X, eval_C, eval_C]
    intro h
    rcases mul_eq_zero.mp h with h | h
    · have : z = 1/2 := by linear_combination h
      rw [this] at hz; norm_num at hz
    · have : z = 2 := by linear_combination h
      rw [this] at hz; norm_num at hz

end QSP.C03c
