/-
  Property C10 — `ComputeQSPResponse` (`pyqsp/response.py`) is the documented product and bracket.

  The property theorems and their non-vacuity examples.  `response_eq_def` and the refusals are
  proved here, from the bridge `response_toC` between the model's matrices and complex ones; the
  other proofs are in `QSP/Proofs/Response.lean` and `QSP/Proofs/L2Kit.lean`.  The mathematical definition
  (`respDef`, `Udef`, `sigDef`, `phaseDef`, `ketDef`) is in `QSP/Proofs/RespDef.lean`; the
  executable model (`response`, `respBall`) in `QSP/Model/Response.lean`, `QSP/Model/Ball.lean`.
-/
import QSP.Proofs.Response
open Matrix Complex
namespace QSP.C10
open QSP

/-! ### the model is the definition -/

/-- the executable model, run at `ℂ` on the true cosines and sines of any non-empty phase
    list, for either convention and any (or the default) measurement, is the documented
    ordered product `P₀ W P₁ … W Pₙ` bracketed by the measurement state -/
theorem response_eq_def (so : SigOp) (me : Option Meas) (φs : List ℝ) (hφ : φs ≠ []) (a : ℝ) :
    response (R := ℂ) Complex.I (1 / 2) so.name (me.map Meas.name)
      (φs.map (fun φ : ℝ => (((Real.cos φ : ℝ) : ℂ), ((Real.sin φ : ℝ) : ℂ))))
      (a : ℂ) ((Real.sqrt (1 - a ^ 2) : ℝ) : ℂ)
      = .ok (respDef so (me.getD so.defaultMeas) φs a) := by
  cases φs with
  | nil => exact absurd rfl hφ
  | cons φ φs =>
    obtain ⟨r, h1, h2⟩ := response_toC homLike_id Complex.I (1 / 2) rfl rfl so me
      (((Real.cos φ : ℝ) : ℂ), ((Real.sin φ : ℝ) : ℂ))
      (φs.map (fun φ : ℝ => (((Real.cos φ : ℝ) : ℂ), ((Real.sin φ : ℝ) : ℂ))))
      (a : ℂ) ((Real.sqrt (1 - a ^ 2) : ℝ) : ℂ)
    rw [List.map_cons, h1]
    simp only [List.map_id'] at h2
    rw [← List.map_cons (f := fun φ : ℝ => (((Real.cos φ : ℝ) : ℂ), ((Real.sin φ : ℝ) : ℂ))),
      UG_eq_Udef] at h2
    rw [h2]; rfl

/-! ### refusals (any coefficient type, any phases) -/

section
variable {R : Type} [Zero R] [One R] [Add R] [Mul R] [Neg R]

/-- an unknown signal-operator name is refused -/
theorem response_refuses_so (ι half : R) (so : String) (h1 : so ≠ "Wx") (h2 : so ≠ "Wz")
    (meas : Option String) (phases : List (R × R)) (a b : R) :
    response ι half so meas phases a b = .error .response := by
  simp only [response, sigOp, h1, h2, if_false]
  rfl

/-- an unknown measurement name is refused -/
theorem response_refuses_meas (ι half : R) (so : SigOp) (m : String) (hm1 : m ≠ "x")
    (hm2 : m ≠ "z") (phases : List (R × R)) (hp : phases ≠ []) (a b : R) :
    response ι half so.name (some m) phases a b = .error .response := by
  cases phases with
  | nil => exact absurd rfl hp
  | cons p ps =>
    rw [response_name]
    exact bracket_other half m hm1 hm2 _

/-- the empty phase list is an error (the code raises `IndexError`; with an unknown measurement it raises
    `ResponseError` first, which this model does not distinguish) -/
theorem response_refuses_empty (ι half : R) (so : SigOp) (meas : Option String) (a b : R) :
    response ι half so.name meas [] a b = .error .other :=
  QSP.response_nil ι half so meas a b

end

/-! ### the two conventions -/

/-- the Wz product is the Hadamard conjugate of the Wx product (any phases, any signal) -/
theorem Udef_Wz (a : ℝ) (φs : List ℝ) : Udef .Wz a φs = HadMat * Udef .Wx a φs * HadMat :=
  QSP.Udef_Wz a φs

/-- `<+|U_x|+> = <0|U_z|0>` -/
theorem resp_Wx_x_eq_Wz_z (φs : List ℝ) (a : ℝ) : respDef .Wx .x φs a = respDef .Wz .z φs a :=
  QSP.resp_Wx_x_eq_Wz_z φs a

/-- `<+|U_z|+> = <0|U_x|0>` -/
theorem resp_Wz_x_eq_Wx_z (φs : List ℝ) (a : ℝ) : respDef .Wz .x φs a = respDef .Wx .z φs a :=
  QSP.resp_Wz_x_eq_Wx_z φs a

/-! ### unitarity -/

/-- for a signal in `[-1, 1]` the product is unitary -/
theorem Udef_unitary (so : SigOp) (a : ℝ) (ha : a ∈ Set.Icc (-1 : ℝ) 1) (φs : List ℝ) :
    (Udef so a φs)ᴴ * Udef so a φs = 1 :=
  mem_unitaryGroup_iff'.mp (Udef_mem_unitaryGroup so a ha φs)

/-- … and the response has modulus at most 1 -/
theorem norm_respDef_le_one (so : SigOp) (me : Meas) (φs : List ℝ) (a : ℝ)
    (ha : a ∈ Set.Icc (-1 : ℝ) 1) : ‖respDef so me φs a‖ ≤ 1 :=
  (norm_bracket_le _ me).trans (norm_le_one_of_unitary (Udef_mem_unitaryGroup so a ha φs))

/-! ### the Wz convention: X rotations interleaved with the diagonal signal -/

/-- Wz phase operators are X rotations -/
theorem phaseDef_Wz (φ : ℝ) : phaseDef .Wz φ = rotC (Real.cos φ) (Real.sin φ) :=
  QSP.phaseDef_Wz φ

/-- the Wz signal at `a = cos θ` (`sin θ ≥ 0`, e.g. `θ ∈ [0, π]`) is `diag(e^{iθ}, e^{-iθ})` -/
theorem sigDef_Wz_cos (θ : ℝ) (hθ : 0 ≤ Real.sin θ) : sigDef .Wz (Real.cos θ) = wC θ :=
  QSP.sigDef_Wz_cos θ hθ

theorem Udef_Wz_eq_prod (θ : ℝ) (hθ : 0 ≤ Real.sin θ) (φ : ℝ) (φs : List ℝ) :
    Udef .Wz (Real.cos θ) (φ :: φs)
      = φs.foldl (fun U ψ => U * (wC θ * rotC (Real.cos ψ) (Real.sin ψ)))
          (rotC (Real.cos φ) (Real.sin φ)) := QSP.Udef_Wz_eq_prod θ hθ φ φs

/-- the Wz / z response is the top-left entry of the product -/
theorem respDef_Wz_z (φs : List ℝ) (a : ℝ) : respDef .Wz .z φs a = (Udef .Wz a φs) 0 0 :=
  QSP.respDef_Wz_z φs a

/-! ### the enclosure behind the correspondence check -/

/-- whatever `respBall` returns for rational phases and a rational signal in `[-1, 1]` is
    within the returned bound of the response of the mathematical definition -/
theorem respBall_sound (so : SigOp) (me : Option Meas) (bits : ℕ) (a : ℚ)
    (ha : (a : ℝ) ∈ Set.Icc (-1 : ℝ) 1) (φs : List ℚ) (z : Cx) (E : ℚ)
    (h : respBall so.name (me.map Meas.name) bits a φs = .ok (z, E)) :
    ‖(⟨(z.re : ℝ), (z.im : ℝ)⟩ : ℂ)
        - respDef so (me.getD so.defaultMeas) (φs.map (fun q : ℚ => (q : ℝ))) (a : ℝ)‖
      ≤ (E : ℝ) := QSP.respBall_sound so me bits a ha φs z E h

/-- the same with the (decidable) range condition over `ℚ` -/
theorem respBall_sound_rat (so : SigOp) (me : Option Meas) (bits : ℕ) (a : ℚ)
    (ha : -1 ≤ a ∧ a ≤ 1) (φs : List ℚ) (z : Cx) (E : ℚ)
    (h : respBall so.name (me.map Meas.name) bits a φs = .ok (z, E)) :
    ‖(⟨(z.re : ℝ), (z.im : ℝ)⟩ : ℂ)
        - respDef so (me.getD so.defaultMeas) (φs.map (fun q : ℚ => (q : ℝ))) (a : ℝ)‖
      ≤ (E : ℝ) := QSP.respBall_sound_rat so me bits a ha φs z E h

/-- non-vacuity of `respBall_sound`: `respBall` returns on every non-empty phase list -/
theorem respBall_total (so : SigOp) (me : Option Meas) (bits : ℕ) (a : ℚ) (φs : List ℚ)
    (hφ : φs ≠ []) : ∃ z E, respBall so.name (me.map Meas.name) bits a φs = .ok (z, E) :=
  QSP.respBall_total so me bits a φs hφ

/-! ### non-vacuity -/

/-- the hypotheses of `response_eq_def`, `Udef_unitary`, `Udef_Wz_eq_prod` are met by
    concrete data -/
example : ([0, 1] : List ℝ) ≠ [] ∧ (1 / 2 : ℝ) ∈ Set.Icc (-1 : ℝ) 1 ∧ 0 ≤ Real.sin 0 := by
  refine ⟨by simp, ⟨by norm_num, by norm_num⟩, by simp⟩

/-- the refusal hypotheses are met, and valid names are not refused: the model run at `Cx`
    returns for both conventions -/
example : ("Wy" ≠ "Wx" ∧ "Wy" ≠ "Wz") ∧ ("y" ≠ "x" ∧ "y" ≠ "z") ∧
    (response Cx.I (Cx.ofRat (1 / 2)) "Wx" none [(1, 0), (0, 1)] (Cx.ofRat (3 / 5))
      (Cx.ofRat (4 / 5))).isOk = true ∧
    (response Cx.I (Cx.ofRat (1 / 2)) "Wz" (some "x") [(1, 0), (0, 1)] (Cx.ofRat (3 / 5))
      (Cx.ofRat (4 / 5))).isOk = true := by
  refine ⟨⟨by decide +kernel, by decide +kernel⟩, ⟨by decide +kernel, by decide +kernel⟩,
    by decide +kernel, by decide +kernel⟩

/-- `respBall_sound` applies to a concrete call: it returns, and the signal is in range -/
example : ∃ z E, respBall "Wx" none 20 (1 / 2) [1 / 3, -1 / 4, 2] = .ok (z, E) ∧
    ‖(⟨(z.re : ℝ), (z.im : ℝ)⟩ : ℂ)
        - respDef .Wx .x ([1 / 3, -1 / 4, 2].map (fun q : ℚ => (q : ℝ))) ((1 / 2 : ℚ) : ℝ)‖
      ≤ (E : ℝ) := by
  obtain ⟨z, E, h⟩ := respBall_total .Wx none 20 (1 / 2) [1 / 3, -1 / 4, 2] (by simp)
  exact ⟨z, E, h, respBall_sound_rat .Wx none 20 (1 / 2) ⟨by norm_num, by norm_num⟩ _ z E h⟩

end QSP.C10
