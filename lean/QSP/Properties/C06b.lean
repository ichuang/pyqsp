/-
  Property C06b — the coefficient-wise reading of C06: "every coefficient of a trigonometric
  polynomial is bounded by its sup norm on the circle" turns the pointwise (spectral norm)
  closeness of the two circle products, certified by `validC06`, into closeness of the
  Laurent coefficients.

  The proofs are in `QSP/Proofs/CoeffBound.lean`, those of `FW_unique`, `Ucirc_entry_coeff_close`
  and `validC06_model_coeff` here.  `FW cs d w = Σ_j cs[j] · w^(d + 2j)` is in
  `QSP/Proofs/Sup.lean`, `evQ`/`evMat` in `QSP/Proofs/AnglesEval.lean`, `Ucirc` and the
  pointwise statement `validC06_sound` in `QSP/Proofs/BallSound.lean`;
  `Ucoef φs = (P, Q)` are the real coefficient lists (low → high on the powers
  `-n, -n+2, …, n`, `n + 1 = φs.length`) with
  `Ucirc θ φs = [[P(w), i Q(w)], [i Q(w⁻¹), P(w⁻¹)]]`, `w = e^{iθ}`.
-/
import QSP.Proofs.CoeffBound
import QSP.Properties.C06
open Matrix Complex
open scoped Matrix.Norms.L2Operator
namespace QSP.C06b
open QSP

/-- every coefficient of a Laurent polynomial is bounded by its sup norm on the unit circle -/
theorem coeff_le_sup (cs : List ℂ) (d : ℤ) (B : ℝ)
    (h : ∀ w : ℂ, ‖w‖ = 1 → ‖FW cs d w‖ ≤ B) : ∀ j < cs.length, ‖cs.getD j 0‖ ≤ B :=
  QSP.coeff_le_sup cs d B h

/-- … for a rational model polynomial evaluated at `e^{iθ}` -/
theorem evQ_coeff_le_sup (p : LP ℚ) (B : ℝ) (h : ∀ θ : ℝ, ‖evQ p θ‖ ≤ B) :
    ∀ j < p.coefs.length, |((p.coefs.getD j 0 : ℚ) : ℝ)| ≤ B := QSP.evQ_coeff_le_sup p B h

/-- pointwise spectral closeness of two evaluated Low-algebra elements bounds every coefficient
    of the two component differences -/
theorem evMat_coeff_le_sup (g g' : LA ℚ) (hg : g.WF) (hg' : g'.WF) (dI dX : LP ℚ)
    (hI : g'.I.sub g.I = .ok dI) (hX : g'.X.sub g.X = .ok dX) (B : ℝ)
    (h : ∀ θ : ℝ, ‖evMat g' θ - evMat g θ‖ ≤ B) :
    (∀ j < dI.coefs.length, |((dI.coefs.getD j 0 : ℚ) : ℝ)| ≤ B) ∧
    (∀ j < dX.coefs.length, |((dX.coefs.getD j 0 : ℚ) : ℝ)| ≤ B) :=
  QSP.evMat_coeff_le_sup g g' hg hg' dI dX hI hX B h

/-- `Ucoef φs` are the coefficients of `Ucirc θ φs` on the whole circle (all four entries) … -/
theorem Ucirc_eq_cmat (φs : List ℝ) (θ : ℝ) :
    Ucirc θ φs = cmat (Ucoef φs) (-((φs.length - 1 : ℕ) : ℤ)) θ := QSP.Ucirc_eq_cmat φs θ

/-- … `n + 1` of them for `n + 1` phases … -/
theorem Ucoef_length (φs : List ℝ) :
    (Ucoef φs).1.length = (φs.length - 1) + 1 ∧ (Ucoef φs).2.length = (φs.length - 1) + 1 :=
  QSP.Ucoef_length φs

/-- … and the only ones: coefficient lists are determined by the values on the circle -/
theorem FW_unique (a b : List ℂ) (hlen : a.length = b.length) (d : ℤ)
    (h : ∀ θ : ℝ, FW a d (exp ((θ : ℂ) * I)) = FW b d (exp ((θ : ℂ) * I))) : a = b := by
  refine List.ext_getElem hlen fun j hj1 hj2 => ?_
  have := FW_coeff_close b a hlen d 0 (fun θ => by rw [h θ, sub_self, norm_zero]) j hj2
  rwa [List.getD_eq_getElem _ _ hj1, List.getD_eq_getElem _ _ hj2, norm_le_zero_iff,
    sub_eq_zero] at this

/-- any complex coefficient lists (same length, same minimal degree) representing the same
    entry `(i, k)` of two pointwise `B`-close circle products are coefficient-wise `B`-close -/
theorem Ucirc_entry_coeff_close (φ φ' : List ℝ) (B : ℝ)
    (h : ∀ θ : ℝ, ‖Ucirc θ φ' - Ucirc θ φ‖ ≤ B) (i k : Fin 2)
    (a a' : List ℂ) (d : ℤ) (hlen : a'.length = a.length)
    (ha : ∀ θ : ℝ, FW a d (exp ((θ : ℂ) * I)) = (Ucirc θ φ) i k)
    (ha' : ∀ θ : ℝ, FW a' d (exp ((θ : ℂ) * I)) = (Ucirc θ φ') i k) :
    ∀ j < a.length, ‖a'.getD j 0 - a.getD j 0‖ ≤ B :=
  FW_coeff_close a a' hlen d B fun θ => by
    rw [ha θ, ha' θ, ← Matrix.sub_apply]
    exact (norm_entry_le _ i k).trans (h θ)

/-- C06, coefficient-wise: acceptance by `validC06` means that the true real Laurent
    coefficients of the two circle products agree within `tolE`, for the diagonal part `P` and
    the anti-diagonal part `Q` -/
theorem validC06_coeff (phis phis' : List ℚ) (tolE tolG : ℚ) (bits : ℕ) (v : VOut)
    (h : validC06 phis phis' tolE tolG bits = .ok v) (hv : v.ok = true) :
    (∀ j < phis.length,
      |(Ucoef (phis'.map (fun q : ℚ => (q : ℝ)))).1.getD j 0
        - (Ucoef (phis.map (fun q : ℚ => (q : ℝ)))).1.getD j 0| ≤ (tolE : ℝ)) ∧
    (∀ j < phis.length,
      |(Ucoef (phis'.map (fun q : ℚ => (q : ℝ)))).2.getD j 0
        - (Ucoef (phis.map (fun q : ℚ => (q : ℝ)))).2.getD j 0| ≤ (tolE : ℝ)) :=
  QSP.validC06_coeff phis phis' tolE tolG bits v h hv

/-- the same read on the validator's own run: the exactly computed rational elements `g`, `g'`
    differ coefficient-wise by at most `tolE - E - E'` -/
theorem validC06_model_coeff (phis phis' : List ℚ) (tolE tolG : ℚ) (bits : ℕ) (v : VOut)
    (h : validC06 phis phis' tolE tolG bits = .ok v) (hv : v.ok = true) :
    ∃ (g g' : LA ℚ) (E E' : ℚ) (dI dX : LP ℚ),
      fromAnglesBall (enclList bits phis) = .ok (g, E) ∧
      fromAnglesBall (enclList bits phis') = .ok (g', E') ∧
      g'.I.sub g.I = .ok dI ∧ g'.X.sub g.X = .ok dX ∧ 0 ≤ E ∧ 0 ≤ E' ∧
      (∀ j < dI.coefs.length, |((dI.coefs.getD j 0 : ℚ) : ℝ)| ≤ ((tolE - E - E' : ℚ) : ℝ)) ∧
      (∀ j < dX.coefs.length, |((dX.coefs.getD j 0 : ℚ) : ℝ)| ≤ ((tolE - E - E' : ℚ) : ℝ)) := by
  obtain ⟨-, g, g', E, E', dI, dX, h1, h2, h3, h4, hb, -, -⟩ :=
    validC06_accepts phis phis' tolE tolG bits v h hv
  obtain ⟨-, hWF, hE, -⟩ := fromAnglesBall_sound bits phis g E h1
  obtain ⟨-, hWF', hE', -⟩ := fromAnglesBall_sound bits phis' g' E' h2
  have hbR : ((l1 dI.coefs : ℚ) : ℝ) + ((l1 dX.coefs : ℚ) : ℝ) ≤ ((tolE - E - E' : ℚ) : ℝ) := by
    exact_mod_cast (by linarith : l1 dI.coefs + l1 dX.coefs ≤ tolE - E - E')
  obtain ⟨c1, c2⟩ := evMat_coeff_le_sup g g' hWF hWF' dI dX h3 h4 _
    (fun θ => (norm_evMat_sub_le g g' hWF hWF' dI dX h3 h4 θ).trans hbR)
  exact ⟨g, g', E, E', dI, dX, h1, h2, h3, h4, hE, hE', c1, c2⟩

/-! ### non-vacuity -/

/-- `Ucoef` on two phases: `R(φ₀) W R(φ₁)` has `P = [-sin φ₀ sin φ₁, cos φ₀ cos φ₁]` and
    `Q = [sin φ₀ cos φ₁, cos φ₀ sin φ₁]` on the powers `-1, 1` -/
example (φ₀ φ₁ : ℝ) : Ucoef [φ₀, φ₁]
    = ([-Real.sin φ₁ * Real.sin φ₀, Real.cos φ₁ * Real.cos φ₀],
       [Real.cos φ₁ * Real.sin φ₀, Real.sin φ₁ * Real.cos φ₀]) := by
  simp [Ucoef, stepCoef]

/-- the theorem applies to the accepted run of `QSP/Properties/C06.lean`: the true coefficients
    of the two products (both phases shifted by `355/113 ≈ π`) agree within `1/100` -/
example : ∀ j < 2,
    |(Ucoef ([1 / 3 + 355 / 113, 1 / 4 + 355 / 113].map (fun q : ℚ => (q : ℝ)))).1.getD j 0
      - (Ucoef ([1 / 3, 1 / 4].map (fun q : ℚ => (q : ℝ)))).1.getD j 0| ≤ ((1 / 100 : ℚ) : ℝ) := by
  obtain ⟨v, hr, hv⟩ := C06.validC06_accepted
  exact (validC06_coeff _ _ _ _ _ v hr hv).1

end QSP.C06b
