/-
  Property C12 — the phase layout of `SymmetricQSPProtocol`.

  Model: `layout`, `Proto.init`, `Proto.update` in `QSP/Model/SymQSP.lean`; mathematical
  definition of the response: `QSP/Proofs/RespDef.lean`.  The lemmas other modules use as well
  are in `QSP/Proofs/SymQSP.lean`.

  The layout theorems hold for any coefficient type with the model's operations: for `ℚ`, on
  which the driver runs the model (`sym.hist`), and for `ℝ`, the phases of the response theorems.
-/
import QSP.Proofs.SymQSP
open Matrix Complex
-- the layout theorems carry all instances of the model's section, whichever their proofs use
set_option linter.unusedSectionVars false
namespace QSP.C12
open QSP

section
variable {R : Type} [Zero R] [One R] [Add R] [Mul R] [Neg R]

/-! ### the full phase list -/

/-- the full phase list is a palindrome, for every parity and every reduced list -/
theorem layout_palindrome (parity : ℤ) (r : List R) :
    (layout parity r).reverse = layout parity r := QSP.layout_palindrome parity r

/-- parity 1 gives `2k` phases … -/
theorem layout_length_odd (r : List R) : (layout 1 r).length = 2 * r.length := by
  rw [layout_length, if_pos rfl]

-- `hr` is part of the stated property (for `r = []` both sides are `0`)
set_option linter.unusedVariables false in
/-- … any other parity `2k - 1` phases … -/
theorem layout_length_even (parity : ℤ) (h : parity ≠ 1) (r : List R) (hr : r ≠ []) :
    (layout parity r).length = 2 * r.length - 1 := by
  rw [layout_length, if_neg h]

/-- … with the doubled first reduced phase in the centre … -/
theorem layout_centre (parity : ℤ) (h : parity ≠ 1) (x : R) (rest : List R) :
    (layout parity (x :: rest)).getD rest.length 0 = two * x := by
  simp only [layout, if_neg h, List.append_assoc]
  exact getD_reverse_append_add rest _ 0 0

/-- … and the remaining reduced phases mirrored around it -/
theorem layout_even_getD (parity : ℤ) (h : parity ≠ 1) (x : R) (rest : List R) (i : ℕ)
    (hi : i < rest.length) :
    (layout parity (x :: rest)).getD (rest.length + 1 + i) 0 = rest.getD i 0 ∧
    (layout parity (x :: rest)).getD (rest.length - 1 - i) 0 = rest.getD i 0 := by
  simp only [layout, if_neg h, List.append_assoc]
  exact ⟨by rw [Nat.add_assoc, getD_reverse_append_add, Nat.add_comm 1 i]; rfl,
    getD_reverse_append rest _ i hi 0⟩

/-- parity 1: the reduced phases mirrored around the centre, none doubled -/
theorem layout_odd_getD (r : List R) (i : ℕ) (hi : i < r.length) :
    (layout 1 r).getD (r.length + i) 0 = r.getD i 0 ∧
    (layout 1 r).getD (r.length - 1 - i) 0 = r.getD i 0 := by
  simp only [layout, if_true]
  exact ⟨getD_reverse_append_add r r i 0, getD_reverse_append r r i hi 0⟩

/-! ### construction and `update_reduced_phases` -/

/-- after ANY sequence of updates the state is that of a protocol freshly built on the
    last reduced phases (nothing of the earlier phases survives; the parity is kept) -/
theorem update_history (p : Option ℤ) (r0 : List R) (hist : List (List R)) :
    hist.foldl Proto.update (Proto.init r0 p)
      = Proto.init ((r0 :: hist).getLast (by simp)) p := by
  induction hist generalizing r0 with
  | nil => rfl
  | cons r hist ih =>
    simp only [List.foldl_cons, update_eq_init, init_parity]
    rw [ih]
    simp [List.getLast_cons]

/-- a built protocol carries the layout of its reduced phases and the matching degree -/
theorem init_spec (p : ℤ) (r : List R) (hr : r ≠ []) :
    (Proto.init r (some p)).full = some (layout p r) ∧
    (Proto.init r (some p)).deg = some ((layout p r).length - 1) ∧
    (Proto.init r (some p)).reduced = r := by
  have : r.isEmpty = false := by
    cases r with
    | nil => exact absurd rfl hr
    | cons _ _ => rfl
  simp [Proto.init, Proto.build, this]

/-- the degree is `2k - 1` for parity 1 and `2k - 2` otherwise -/
theorem init_deg (p : ℤ) (r : List R) (hr : r ≠ []) :
    (Proto.init r (some p)).deg
      = some (if p = 1 then 2 * r.length - 1 else 2 * r.length - 2) := by
  rw [(init_spec p r hr).2.1, layout_length]
  split_ifs <;> rfl

/-- without a parity nothing is laid out -/
theorem init_none (r : List R) : (Proto.init r none).full = none ∧
    (Proto.init r none).deg = none ∧ (Proto.init r none).reduced = r := ⟨rfl, rfl, rfl⟩

/-- nor for an empty reduced list -/
theorem init_nil (p : Option ℤ) : (Proto.init ([] : List R) p).full = none ∧
    (Proto.init ([] : List R) p).deg = none := by
  cases p <;> exact ⟨rfl, rfl⟩

end

/-! ### parity of the response (mathematical definition) -/

/-- for ANY non-empty phase list and every real `a`, the `<0|U|0>` response of the Wx
    convention has the parity of the number of signal operators -/
theorem respDef_neg (φs : List ℝ) (hφ : φs ≠ []) (a : ℝ) :
    respDef .Wx .z φs (-a) = (-1 : ℂ) ^ (φs.length - 1) * respDef .Wx .z φs a :=
  QSP.respDef_neg φs hφ a

/-- in particular its imaginary part (the function symmetric QSP fits) -/
theorem respDef_neg_im (φs : List ℝ) (hφ : φs ≠ []) (a : ℝ) :
    (respDef .Wx .z φs (-a)).im = (-1 : ℝ) ^ (φs.length - 1) * (respDef .Wx .z φs a).im := by
  rw [respDef_neg φs hφ a, neg_one_pow_real_cast, Complex.im_ofReal_mul]

/-- the layout of parity ≠ 1 yields an even response … -/
theorem respDef_layout_even (parity : ℤ) (h : parity ≠ 1) (r : List ℝ) (hr : r ≠ []) (a : ℝ) :
    respDef .Wx .z (layout parity r) (-a) = respDef .Wx .z (layout parity r) a := by
  have hpos : 0 < r.length := List.length_pos_iff.mpr hr
  rw [respDef_neg _ (layout_ne_nil parity hr), layout_length_even parity h r hr,
    Even.neg_one_pow ⟨r.length - 1, by omega⟩, one_mul]

theorem respDef_layout_even_im (parity : ℤ) (h : parity ≠ 1) (r : List ℝ) (hr : r ≠ [])
    (a : ℝ) :
    (respDef .Wx .z (layout parity r) (-a)).im = (respDef .Wx .z (layout parity r) a).im := by
  rw [respDef_layout_even parity h r hr a]

/-- … the layout of parity 1 an odd one -/
theorem respDef_layout_odd (r : List ℝ) (hr : r ≠ []) (a : ℝ) :
    respDef .Wx .z (layout 1 r) (-a) = - respDef .Wx .z (layout 1 r) a := by
  have hpos : 0 < r.length := List.length_pos_iff.mpr hr
  rw [respDef_neg _ (layout_ne_nil 1 hr), layout_length_odd,
    Odd.neg_one_pow ⟨r.length - 1, by omega⟩, neg_one_mul]

theorem respDef_layout_odd_im (r : List ℝ) (hr : r ≠ []) (a : ℝ) :
    (respDef .Wx .z (layout 1 r) (-a)).im = - (respDef .Wx .z (layout 1 r) a).im := by
  rw [respDef_layout_odd r hr a, Complex.neg_im]

/-! ### the symmetric structure -/

/-- transposing the product reverses the phase list (every factor is a symmetric matrix) -/
theorem Udef_Wx_transpose (a : ℝ) (φs : List ℝ) :
    (Udef .Wx a φs)ᵀ = Udef .Wx a φs.reverse := by
  induction φs with
  | nil => simp [Udef]
  | cons φ l ih =>
    cases l with
    | nil => simp only [Udef, List.foldl_nil, List.reverse_cons, List.reverse_nil,
        List.nil_append, phaseDef, PzMat_transpose]
    | cons ψ l =>
      rw [Udef_Wx_cons, Matrix.transpose_mul, Matrix.transpose_mul, ih, PzMat_transpose,
        WxMat_transpose, List.reverse_cons (a := φ), Udef_Wx_snoc a φ (by simp), Matrix.mul_assoc]

/-- so the product of a palindromic phase list is a symmetric matrix … -/
theorem Udef_Wx_symmetric (a : ℝ) (φs : List ℝ) (h : φs.reverse = φs) :
    (Udef .Wx a φs)ᵀ = Udef .Wx a φs := by
  rw [Udef_Wx_transpose, h]

/-- … in particular that of every symmetric-QSP layout -/
theorem Udef_layout_symmetric (parity : ℤ) (r : List ℝ) (a : ℝ) :
    (Udef .Wx a (layout parity r))ᵀ = Udef .Wx a (layout parity r) :=
  Udef_Wx_symmetric a _ (layout_palindrome parity r)

theorem Udef_layout_offdiag (parity : ℤ) (r : List ℝ) (a : ℝ) :
    Udef .Wx a (layout parity r) 0 1 = Udef .Wx a (layout parity r) 1 0 := by
  have := congrFun (congrFun (Udef_layout_symmetric parity r a) 1) 0
  simpa [Matrix.transpose_apply] using this

/-! ### non-vacuity -/

/-- the two layouts on concrete reduced phases -/
example : layout 1 [(1 : ℤ), 2, 3] = [3, 2, 1, 1, 2, 3] ∧
    layout 0 [(1 : ℤ), 2, 3] = [3, 2, 2, 2, 3] ∧ layout 7 [(5 : ℤ)] = [10] := by decide +kernel

/-- the hypotheses of `layout_length_even`, `init_spec` are met -/
example : (0 : ℤ) ≠ 1 ∧ ([1, 2, 3] : List ℤ) ≠ [] := by decide +kernel

/-- a history of two updates -/
example : (([[4, 5], [6]] : List (List ℤ)).foldl Proto.update (Proto.init [1, 2, 3] (some 0))).full
      = some [12] ∧
    (([[4, 5], [6]] : List (List ℤ)).foldl Proto.update (Proto.init [1, 2, 3] (some 0))).deg
      = some 0 ∧
    (([[6], [4, 5]] : List (List ℤ)).foldl Proto.update (Proto.init [1, 2, 3] (some 1))).full
      = some [5, 4, 4, 5] := by decide +kernel

/-- the hypotheses of the response theorems are met -/
example : ([1, 2] : List ℝ) ≠ [] ∧ ([1, 2, 1] : List ℝ).reverse = [1, 2, 1] := by
  refine ⟨by simp, by simp⟩

end QSP.C12
