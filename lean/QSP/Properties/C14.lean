/-
  Property C14 — the polynomial generators return coefficient lists of the advertised parity,
  with the coefficients of the opposite parity EXACTLY zero, and refuse a degree of the wrong
  parity.

  Model: `QSP/Model/Generators.lean` (the option / scale / parity bookkeeping of
  `pyqsp/poly.py`).  The numerical oracles — the least-squares fit `fit`, the optimiser value
  `pmAbs`, the Bessel values `J`, the binomial tail sums `G`, the factor vectors of
  `PolyOneOverXRect` — are parameters, and every theorem below holds for ALL their values.

  Only property theorems (and their non-vacuity examples) live here; the definition used in the
  statements and all helper lemmas are in `QSP/Proofs/Generators.lean`:

    OppZero par l  :=  ∀ i, i % 2 ≠ par % 2 → l.getD i 0 = 0
-/
import QSP.Proofs.Generators
namespace QSP.C14
open QSP

/-- only the indices inside the list matter (so `OppZero` is decidable) -/
theorem oppZero_iff_bounded (par : ℕ) (l : List ℚ) :
    OppZero par l ↔ ∀ i, i < l.length → i % 2 ≠ par % 2 → l.getD i 0 = 0 :=
  QSP.oppZero_iff_bounded par l

/-! ### the parity mask -/

/-- the mask zeroes every entry of the opposite parity … -/
theorem parityPart_oppZero (par : ℕ) (l : List ℚ) : OppZero par (parityPart (par % 2) l 0) := by
  intro i hi
  rw [parityPart_getD_eq, Nat.zero_add, if_neg hi]

/-- … keeps the length … -/
theorem parityPart_length (q : ℕ) (l : List ℚ) (i : ℕ) :
    (parityPart q l i).length = l.length := by
  induction l generalizing i with
  | nil => rfl
  | cons c cs ih => simp [parityPart, ih]

/-- … and keeps every entry of the requested parity -/
theorem parityPart_keeps (par : ℕ) (l : List ℚ) (i : ℕ) (h : i % 2 = par % 2) :
    (parityPart (par % 2) l 0).getD i 0 = l.getD i 0 := by
  rw [parityPart_getD_eq, Nat.zero_add, if_pos h]

/-! ### the erf family (sign, threshold, phase estimation, rect, linear amplification, Gibbs,
    eigenstate filter, ReLU, softplus) -/

/-- degree of the generator's parity: the run returns, the coefficients of the opposite parity
    are exactly zero, and there are as many coefficients as the fit oracle produced
    (`degree + 1` whenever the fit returns `degree + 1`), whatever the options -/
theorem erfGenerate_ok (par degree : ℕ) (o : GenOpts) (maxScale : ℚ) (fit : List ℚ) (pmAbs : ℚ)
    (h : degree % 2 = par % 2) :
    ∃ out, erfGenerate par degree o maxScale fit pmAbs = .ok out ∧ OppZero par out.coefList ∧
      out.coefList.length = fit.length := by
  refine ⟨_, by rw [erfGenerate, if_neg (not_not.mpr h)], ?_, ?_⟩
  · rw [coefList_wrapOut]
    exact parityPart_oppZero par _
  · rw [coefList_wrapOut, parityPart_length]
    unfold taylorSeries
    split <;> simp

/-- degree of the wrong parity: refused -/
theorem erfGenerate_refuses (par degree : ℕ) (o : GenOpts) (maxScale : ℚ) (fit : List ℚ)
    (pmAbs : ℚ) (h : degree % 2 ≠ par % 2) :
    erfGenerate par degree o maxScale fit pmAbs = .error .degree := by
  rw [erfGenerate, if_pos h]

/-- the parity guard is the only way to fail -/
theorem erfGenerate_error_iff (par degree : ℕ) (o : GenOpts) (maxScale : ℚ) (fit : List ℚ)
    (pmAbs : ℚ) (e : Err) :
    erfGenerate par degree o maxScale fit pmAbs = .error e ↔
      (degree % 2 ≠ par % 2 ∧ e = .degree) := by
  unfold erfGenerate
  split
  · rename_i h
    simp [h, eq_comm]
  · rename_i h
    simp [h]

/-! ### Chebyshev-sum generators (cosine, sine, 1/x) -/

/-- the Chebyshev coefficient vector has zeros at every index of the opposite parity … -/
theorem spread_oppZero (par : ℕ) (vals : List ℚ) : OppZero par (spread par vals) :=
  QSP.spread_oppZero par vals

/-- … and the `k`-th value at index `2k + par % 2` -/
theorem spread_getD (par : ℕ) (vals : List ℚ) (k : ℕ) :
    (spread par vals).getD (2 * k + par % 2) 0 = vals.getD k 0 := by
  rw [spread_getD_eq, if_pos (by rw [Nat.mul_add_mod, Nat.mod_mod]), Nat.mul_add_div two_pos,
    Nat.div_eq_of_lt (Nat.mod_lt _ two_pos), Nat.add_zero]

/-- scaling by a constant keeps the exact zeros -/
theorem oppZero_map_mul (par : ℕ) (s : ℚ) (l : List ℚ) (h : OppZero par l) :
    OppZero par (l.map (s * ·)) := by
  rw [oppZero_iff_coeff] at h ⊢
  intro i hi
  rw [toPoly_map_mul, Polynomial.coeff_C_mul, h i hi, mul_zero]

/-- the monomial coefficient list of `T_n` has exact zeros at the indices of parity `≠ n` -/
theorem chebBasis_oppZero (n : ℕ) : OppZero n (chebBasis false n : List ℚ) :=
  QSP.chebBasis_oppZero n

/-- Chebyshev → monomial conversion: a sum of Chebyshev polynomials of one parity has
    exactly-zero monomial coefficients of the other parity -/
theorem cheb2poly_oppZero (par : ℕ) (c : List ℚ) (h : OppZero par c) :
    OppZero par (cheb2poly false c) := by
  rw [oppZero_iff_coeff]
  intro j hj
  rw [toPoly_cheb2poly, chebSum_eq_sum, Polynomial.finsetSum_coeff]
  refine Finset.sum_eq_zero fun i _ => ?_
  rw [Polynomial.coeff_C_mul, chebP_false]
  by_cases hi : i % 2 = par % 2
  · rw [T_coeff_opp i j (hi ▸ hj), mul_zero]
  · rw [h i hi, zero_mul]

/-- final stage, any options (either basis, bounded or not, scale returned or not) -/
theorem chebFinish_oppZero (par : ℕ) (o : GenOpts) (cheb : List ℚ) (scale : ℚ)
    (h : OppZero par cheb) : OppZero par (chebFinish o cheb scale).coefList := by
  rw [coefList_chebFinish]
  have hg : OppZero par (if o.ensureBounded then cheb.map (scale * ·) else cheb) := by
    split
    · exact oppZero_map_mul par scale cheb h
    · exact h
  split
  · exact hg
  · exact cheb2poly_oppZero par _ hg

/-- cosine: even, for all options and all Bessel values -/
theorem cosGenerate_oppZero (o : GenOpts) (J : List ℚ) : OppZero 0 (cosGenerate o J).coefList := by
  rw [cosGenerate_eq]
  exact chebFinish_oppZero 0 o _ _ (cosCheb_oppZero J)

/-- sine: odd, for all options and all Bessel values -/
theorem sinGenerate_oppZero (o : GenOpts) (J : List ℚ) : OppZero 1 (sinGenerate o J).coefList :=
  chebFinish_oppZero 1 o _ _ (QSP.spread_oppZero 1 _)

/-- 1/x: odd, for all options, all binomial sums and every optimiser value -/
theorem invGenerate_oppZero (o : GenOpts) (G : List ℚ) (pmAbs : ℚ) :
    OppZero 1 (invGenerate o G pmAbs).coefList :=
  chebFinish_oppZero 1 o _ _ (QSP.spread_oppZero 1 _)

/-! ### the product generator `PolyOneOverXRect` -/

/-- parities add under the coefficient convolution … -/
theorem convL_oppZero_add (p q : ℕ) (a b : List ℚ) (ha : OppZero p a) (hb : OppZero q b) :
    OppZero (p + q) (convL a b) := QSP.convL_oppZero_add p q a b ha hb

/-- … in particular odd × even = odd -/
theorem convL_oppZero (a b : List ℚ) (ha : OppZero 1 a) (hb : OppZero 0 b) :
    OppZero 1 (convL a b) := convL_oppZero_add 1 0 a b ha hb

/-- 1/x · rect is odd when the factors have their advertised parities -/
theorem invRectGenerate_oppZero (rs : Bool) (cInv cRect : List ℚ) (s1 s2 : ℚ)
    (ha : OppZero 1 cInv) (hb : OppZero 0 cRect) :
    OppZero 1 (invRectGenerate rs cInv cRect s1 s2).coefList := by
  rw [coefList_invRectGenerate]
  split
  · exact oppZero_nil 1
  · exact convL_oppZero cInv cRect ha hb

/-! ### non-vacuity -/

example : OppZero 1 [0, 9 / 10, 0, 9 / 5] ∧ ¬ OppZero 1 [1, 2] ∧ ¬ OppZero 0 [0, 2] := by
  decide +kernel

example : parityPart 1 [1, 2, 3, 4] 0 = [0, 2, 0, 4] := by decide +kernel

/-- an odd generator at degree 3: returns, four coefficients, the even ones exactly zero -/
example : erfGenerate 1 3 ⟨true, true, false⟩ (9 / 10) [1, 2, 3, 4] 2 =
    .ok (.withScale [0, 9 / 10, 0, 9 / 5] (9 / 20)) := by decide +kernel

example : erfGenerate 1 3 ⟨false, true, false⟩ (9 / 10) [1, 2, 3, 4] 2 =
    .ok (.coefs [0, 2, 0, 4]) := by decide +kernel

/-- an even generator at degree 4 -/
example : erfGenerate 0 4 ⟨true, true, true⟩ (9 / 10) [1, 2, 3, 4, 5] 3 =
    .ok (.withScale [3 / 10, 0, 9 / 10, 0, 3 / 2] (3 / 10)) := by decide +kernel

/-- an odd generator at degree 4: refused -/
example : erfGenerate 1 4 ⟨true, true, false⟩ (9 / 10) [1, 2, 3, 4, 5] 2 = .error .degree := by
  decide +kernel

example : spread 0 [1, 2, 3] = [1, 0, 2, 0, 3] ∧ spread 1 [1, 2, 3] = [0, 1, 0, 2, 0, 3] := by
  decide +kernel

/-- sine, monomial basis: `2 T_1 - 4 T_3 = 14 x - 16 x^3` -/
example : sinGenerate ⟨false, true, false⟩ [1, 2] = .coefs [0, 14, 0, -16] := by decide +kernel

example : sinGenerate ⟨false, true, true⟩ [1, 2] = .coefs [0, 2, 0, -4] := by decide +kernel

/-- cosine, both bases: `T_0 - 4 T_2 + 6 T_4 = 11 - 56 x^2 + 48 x^4` -/
example : cosGenerate ⟨false, false, true⟩ [1, 2, 3] = .coefs [1, 0, -4, 0, 6] ∧
    cosGenerate ⟨false, false, false⟩ [1, 2, 3] = .coefs [11, 0, -56, 0, 48] := by
  decide +kernel

example : invGenerate ⟨true, true, false⟩ [1, 2] 4 = .withScale [0, 7 / 2, 0, -4] (1 / 8) := by
  decide +kernel

/-- odd × even -/
example : invRectGenerate true [0, 1, 0, 2] [1, 0, 3] 2 3 = .withScale [0, 1, 0, 5, 0, 6] 6 ∧
    OppZero 1 [0, 1, 0, 2] ∧ OppZero 0 [1, 0, 3] := by decide +kernel

end QSP.C14
