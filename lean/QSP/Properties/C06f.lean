/-
  Property C06f (cited for C03 as well) — `pyqsp/decomposition.py :: decompose` and `angseq` in EXACT
  arithmetic.

  (a) `decompose_solvable_trunc`: on `g = fromAngles ps` (`n + 1` unit pairs, `1 ≤ ldeg ≤ n`) the
      element `r = LAlg.truncate(l * g, -(n - ldeg), n - ldeg)` that the code returns, computed by
      the model's `LA.truncate` on the model product, IS the documented suffix element
      `fromAngles (splitSuffix ps ldeg)` — literally the same stored value (lists, lowest power,
      flag), not only the same denotation.
  (b) `ExactAngSeq g out` — the recursion of `angseq` run with exact solutions: at a node of degree
      `n ≥ 2` ANY exact solution of `linear_system(g, n // 2)`, recursion on `~l` and on
      `truncate(l * g)`, glue by `mergePairs`; at a leaf (degree 1) the read-out
      `left_and_right_angles` is NOT modelled (`numpy.angle`) but taken as the abstract specification
      "returns two pairs `[a, b]` with `unitary_from_angles([a, b]) = g`" (cf. `C08.readout_two`).
      * `angseq_exact_total`: derivable for every list of `n + 1 ≥ 2` unit pairs (no
        non-degeneracy needed) — the exact algorithm cannot get stuck;
      * `angseq_exact_sound`: if the interior cosines are regular (non-zero over a field: no interior
        phase is an odd multiple of π/2) then EVERY derivation returns `out` with `n + 1` pairs and
        `fromAngles out = .ok g`, the same stored element (the solutions are forced by
        `C06e.decompose_unique`, so `~l` and `r` are the prefix / suffix elements at every node);
      * `angseq_exact_roundtrip`: both, over a field.
  That `out` equals `ps` up to the sign gauge does not follow from the abstract leaf specification
  alone (any `[a, b]` with the right product is allowed at a leaf); for unit returned pairs it is
  `C06g.angseq_exact_gauge`.  NOT stated: the link of `ExactAngSeq` to the circle-level tree `AngSeq`
  of `C06c` (it follows from `fromAngles_eval_pairs`; `C06h.exact_angseq_on_circle` is the pointwise
  form).

  Proofs: `QSP/Proofs/DecompRec.lean`.  `DS.Rng n g` ("both components of `g` are stored on
  `-n .. n`, non-zero-flagged"; `DS.Rng.shape` gives the lists' lengths) is in
  `QSP/Proofs/P2.lean`.
-/
import QSP.Proofs.DecompRec
open LaurentPolynomial
namespace QSP.C06f
open QSP
variable {R : Type} [CommRing R]

/-- (a) the truncated product is the suffix element -/
theorem decompose_solvable_trunc (ps : List (R × R)) (n ldeg : ℕ) (hlen : ps.length = n + 1)
    (hunit : ∀ c ∈ ps, c.1 ^ 2 + c.2 ^ 2 = 1) (h1 : 1 ≤ ldeg) (h2 : ldeg ≤ n) :
    ∃ g pre suf l r : LA R,
      LA.fromAngles ps = .ok g ∧ LA.fromAngles (splitPrefix ps ldeg) = .ok pre ∧
      LA.fromAngles (splitSuffix ps ldeg) = .ok suf ∧ pre.conj = .ok l ∧ l.conj = .ok pre ∧
      DS.Rng n g ∧ DS.Rng ldeg l ∧ DS.Rng (n - ldeg) suf ∧
      mulVec (linSys g.I.coefs g.X.coefs ldeg).1 (vecOf l.I.coefs l.X.coefs)
        = (linSys g.I.coefs g.X.coefs ldeg).2 ∧
      l.mul g = .ok r ∧
      r.truncate (-((n - ldeg : ℕ) : ℤ)) ((n - ldeg : ℕ) : ℤ) = .ok suf :=
  DS.decompose_solvable_trunc ps n ldeg hlen hunit h1 h2

/-- truncation of a value stored on `-N .. N` that denotes a list on `-m .. m` -/
theorem truncate_window (cs target : List R) (N m : ℕ) (hlen : cs.length = N + 1) (hm : m ≤ N)
    (hpar : (N - m) % 2 = 0) (htl : target.length = m + 1)
    (hden : denL cs (-(N : ℤ)) = denL target (-(m : ℤ))) :
    (⟨cs, -(N : ℤ), false⟩ : LP R).truncate (-(m : ℤ)) m = .ok ⟨target, -(m : ℤ), false⟩ :=
  DS.truncate_window hlen hm hpar htl hden

/-- the glue of the documented split is the original list -/
theorem merge_split (ps : List (R × R)) (n ldeg : ℕ) (hlen : ps.length = n + 1) (h2 : ldeg ≤ n)
    (hunit : ∀ c ∈ ps, c.1 ^ 2 + c.2 ^ 2 = 1) :
    mergePairs (splitPrefix ps ldeg) (splitSuffix ps ldeg) = ps :=
  DS.merge_split hlen h2 hunit

/-- (b) totality -/
theorem angseq_exact_total (n : ℕ) (ps : List (R × R)) (hn : 1 ≤ n) (hlen : ps.length = n + 1)
    (hunit : ∀ c ∈ ps, c.1 ^ 2 + c.2 ^ 2 = 1) :
    ∃ g, LA.fromAngles ps = .ok g ∧ DS.ExactAngSeq g ps :=
  DS.exact_total n ps hn hlen hunit

/-- (b) soundness of every derivation, over any commutative ring with regular interior cosines -/
theorem angseq_exact_sound {g : LA R} {out : List (R × R)} (h : DS.ExactAngSeq g out) (n : ℕ)
    (ps : List (R × R)) (hlen : ps.length = n + 1) (hunit : ∀ c ∈ ps, c.1 ^ 2 + c.2 ^ 2 = 1)
    (hreg : ∀ c ∈ ps.tail.dropLast, ∀ x : R, x * c.1 = 0 → x = 0)
    (hg : LA.fromAngles ps = .ok g) :
    LA.fromAngles out = .ok g ∧ out.length = n + 1 :=
  DS.exact_sound h hlen hunit hreg hg

/-- (b) over a field: the exact algorithm is derivable and every run inverts phases → element -/
theorem angseq_exact_roundtrip {K : Type} [Field K] (n : ℕ) (ps : List (K × K)) (hn : 1 ≤ n)
    (hlen : ps.length = n + 1) (hunit : ∀ c ∈ ps, c.1 ^ 2 + c.2 ^ 2 = 1)
    (hcos : ∀ c ∈ ps.tail.dropLast, c.1 ≠ 0) :
    ∃ g, LA.fromAngles ps = .ok g ∧ (∃ out, DS.ExactAngSeq g out) ∧
      ∀ out, DS.ExactAngSeq g out → LA.fromAngles out = .ok g ∧ out.length = n + 1 := by
  obtain ⟨g, hg, hd⟩ := DS.exact_total n ps hn hlen hunit
  exact ⟨g, hg, ⟨ps, hd⟩, fun out h =>
    DS.exact_sound h hlen hunit (DS.regular_of_ne_zero hcos) hg⟩

/-! ### non-vacuity -/

/-- the round trip applies to the rational rotations `(3/5, 4/5), (5/13, 12/13), (8/17, 15/17)` -/
example : ∃ g : LA ℚ,
    LA.fromAngles [((3 : ℚ)/5, (4 : ℚ)/5), (5/13, 12/13), (8/17, 15/17)] = .ok g ∧
    (∃ out, DS.ExactAngSeq g out) ∧
    ∀ out, DS.ExactAngSeq g out → LA.fromAngles out = .ok g ∧ out.length = 2 + 1 := by
  refine angseq_exact_roundtrip 2 _ (by norm_num) rfl ?_ ?_
  · decide +kernel
  · decide +kernel

/-- (a) on that list, computed by the kernel: `truncate(l * g, -1, 1)` and the suffix element are
    the same stored value -/
example :
    let ps : List (ℚ × ℚ) := [(3/5, 4/5), (5/13, 12/13), (8/17, 15/17)]
    let l : LA ℚ := ⟨⟨[9/25, 16/25], -1, false⟩, ⟨[-12/25, 12/25], -1, false⟩⟩
    ((LA.fromAngles ps).toOption.bind fun g => (l.mul g).toOption.bind fun r =>
        (r.truncate (-1) 1).toOption).map
        (fun t => (t.I.coefs, t.I.dmin, t.I.iszero, t.X.coefs, t.X.dmin, t.X.iszero))
      = (LA.fromAngles (splitSuffixQ ps 1)).toOption.map
        (fun t => (t.I.coefs, t.I.dmin, t.I.iszero, t.X.coefs, t.X.dmin, t.X.iszero)) ∧
    (LA.fromAngles (splitSuffixQ ps 1)).toOption.map (fun t => (t.I.coefs, t.X.coefs))
      = some ([-168/221, -264/1105], [448/1105, -99/221]) := by decide +kernel

end QSP.C06f
