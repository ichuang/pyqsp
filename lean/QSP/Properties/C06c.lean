/-
  Property C06c — the list glue of `pyqsp/decomposition.py :: angseq`,

      l, r = decompose(g, deg // 2)          # oracle, g = l * r
      a = angseq(l); b = angseq(r)
      return a[:-1] + [a[-1] + b[0]] + b[1:]

  is right for EVERY pair of phase lists: the circle product of the glued list is the product of
  the two circle products (the two adjacent X-rotations `R(a[-1]) R(b[0]) = R(a[-1] + b[0])`
  merge), and degrees add.  The harness compares `mergeAnglesQ` with recursion steps of the real `angseq`
  (exactly, but for the rounding of the one sum at the junction).

  The lemmas are in `QSP/Proofs/Glue.lean` (lists) and `QSP/Proofs/Decomp.lean` (matrices), the executable
  definitions `mergeWith`, `mergeAngles`, `rotMul`, `mergePairs` in `QSP/Model/Decomp.lean`.
  `Ucirc θ [φ₀,…,φ_n] = R(φ₀) W(θ) R(φ₁) ⋯ W(θ) R(φ_n)` is in `QSP/Proofs/BallSound.lean`,
  `UcircPairs` (the same product over arbitrary `(c, s)` pairs), `prC φ = (cos φ, sin φ)` and `castP`
  in `QSP/Proofs/Jacobian.lean`, `evMat` in `QSP/Proofs/AnglesEval.lean`.

  The model is TOTAL: where the code raises `IndexError` (an empty `a` or `b`) it returns the
  other list.  `[]` is then a two-sided unit of the glue, as `Ucirc θ [] = 1` is of the matrix
  product, and the product theorems need no non-emptiness hypothesis (`…_total`); the versions with
  the hypotheses are the statements about the code.
-/
import QSP.Proofs.Decomp
open Matrix Complex
namespace QSP.C06c
open QSP

/-! ### the model is the expression of the code -/

/-- `mergeAngles a b = a[:-1] + [a[-1] + b[0]] + b[1:]` on non-empty lists -/
theorem mergeAngles_eq_python {α : Type} [Add α] (a b : List α) (ha : a ≠ []) (hb : b ≠ []) :
    mergeAngles a b = a.dropLast ++ [a.getLast ha + b.head hb] ++ b.tail :=
  mergeWith_eq_python _ a b ha hb

/-- `mergePairs a b = a[:-1] ++ [rotMul a[-1] b[0]] ++ b[1:]` on non-empty lists -/
theorem mergePairs_eq_python {R : Type} [CommRing R] (a b : List (R × R)) (ha : a ≠ [])
    (hb : b ≠ []) :
    mergePairs a b = a.dropLast ++ [rotMul (a.getLast ha) (b.head hb)] ++ b.tail :=
  mergeWith_eq_python _ a b ha hb

/-- the glue on phases and the glue on `(cos, sin)` pairs correspond (angle addition) -/
theorem map_prC_mergeAngles (φ ψ : List ℝ) :
    (mergeAngles φ ψ).map prC = mergePairs (φ.map prC) (ψ.map prC) :=
  QSP.map_prC_mergeAngles φ ψ

/-! ### (a), (b) the glue is the matrix product -/

set_option linter.unusedVariables false in
/-- (a) the circle product of the glued phase list is the product of the circle products.  `hφ`, `hψ` make this
    the statement about the code, which raises on `[]`; the proof needs neither (the model is total) -/
theorem Ucirc_mergeAngles (θ : ℝ) (φ ψ : List ℝ) (hφ : φ ≠ []) (hψ : ψ ≠ []) :
    Ucirc θ (mergeAngles φ ψ) = Ucirc θ φ * Ucirc θ ψ := QSP.Ucirc_mergeAngles_total θ φ ψ

/-- (a) … for ALL lists (total model) -/
theorem Ucirc_mergeAngles_total (θ : ℝ) (φ ψ : List ℝ) :
    Ucirc θ (mergeAngles φ ψ) = Ucirc θ φ * Ucirc θ ψ := QSP.Ucirc_mergeAngles_total θ φ ψ

set_option linter.unusedVariables false in
/-- (b) the same over ARBITRARY complex `(c, s)` pairs (unit or not); `ha`, `hb` as `hφ`, `hψ` in (a) -/
theorem UcircPairs_mergePairs (θ : ℝ) (a b : List (ℂ × ℂ)) (ha : a ≠ []) (hb : b ≠ []) :
    UcircPairs θ (mergePairs a b) = UcircPairs θ a * UcircPairs θ b :=
  QSP.UcircPairs_mergePairs_total θ a b

/-- (b) … for ALL lists (total model) -/
theorem UcircPairs_mergePairs_total (θ : ℝ) (a b : List (ℂ × ℂ)) :
    UcircPairs θ (mergePairs a b) = UcircPairs θ a * UcircPairs θ b :=
  QSP.UcircPairs_mergePairs_total θ a b

/-- the junction: `R(x + y) = R(x) R(y)` -/
theorem rotC_add (x y : ℝ) :
    rotC (Real.cos (x + y)) (Real.sin (x + y))
      = rotC (Real.cos x) (Real.sin x) * rotC (Real.cos y) (Real.sin y) := by
  have h := rotC_rotMul (prC x) (prC y)
  rw [← prC_add] at h
  exact h

/-! ### (c) degrees add -/

/-- (c) `n_a + 1` and `n_b + 1` phases are glued to `n_a + n_b + 1` phases -/
theorem length_mergeAngles {α : Type} [Add α] (a b : List α) (ha : a ≠ []) (hb : b ≠ []) :
    (mergeAngles a b).length + 1 = a.length + b.length := QSP.length_mergeAngles a b ha hb

theorem length_mergePairs {R : Type} [CommRing R] (a b : List (R × R)) (ha : a ≠ [])
    (hb : b ≠ []) : (mergePairs a b).length + 1 = a.length + b.length :=
  QSP.length_mergePairs a b ha hb

/-! ### (d) the recursion of `angseq` -/

/-- (d) one recursion step at one point of the circle: if the two returned lists represent the
    two factors, the glued list represents the product -/
theorem angseq_step (θ : ℝ) (a b : List ℝ) (L R G : M22) (ha : Ucirc θ a = L)
    (hb : Ucirc θ b = R) (hG : G = L * R) : Ucirc θ (mergeAngles a b) = G := by
  rw [QSP.Ucirc_mergeAngles_total, ha, hb, hG]

/-- (d) … on the whole circle, with the degree count -/
theorem angseq_step_all (a b : List ℝ) (L R G : ℝ → M22) (ha : ∀ θ, Ucirc θ a = L θ)
    (hb : ∀ θ, Ucirc θ b = R θ) (hG : ∀ θ, G θ = L θ * R θ) (na nb : ℕ)
    (hna : a.length = na + 1) (hnb : b.length = nb + 1) :
    (∀ θ, Ucirc θ (mergeAngles a b) = G θ) ∧ (mergeAngles a b).length = na + nb + 1 :=
  QSP.angseq_step_all a b L R G ha hb hG na nb hna hnb

/-- (d) the WHOLE recursion with an exact oracle (`AngSeq n g φ`: a recursion tree of `angseq` on the
    degree-`n` element `g`, nodes `g = l * r` with ANY split of the degree, returns `φ`; a leaf carries the
    hypothesis that its two angles reproduce the degree-1 element, so `left_and_right_angles` is an oracle
    as well as `decompose`): the returned list has `n + 1` phases and its circle product is `g` -/
theorem angSeq_sound {n : ℕ} {g : ℝ → M22} {φ : List ℝ} (h : AngSeq n g φ) :
    (∀ θ, Ucirc θ φ = g θ) ∧ φ.length = n + 1 ∧ 1 ≤ n := h.sound

/-! ### (e) the executable model -/

/-- (e) the exactly computed rational element of the glued pairs is, at every point of the
    circle, the product of the two computed elements (`pa`, `pb` are non-empty since
    `LA.fromAngles` fails on `[]`) -/
theorem fromAngles_mergePairs_eval (pa pb : List (ℚ × ℚ)) (ga gb g : LA ℚ)
    (ha : LA.fromAngles pa = .ok ga) (hb : LA.fromAngles pb = .ok gb)
    (h : LA.fromAngles (mergePairs pa pb) = .ok g) (θ : ℝ) :
    evMat g θ = evMat ga θ * evMat gb θ := by
  rw [fromAngles_eval_pairs _ g h θ, fromAngles_eval_pairs _ ga ha θ,
    fromAngles_eval_pairs _ gb hb θ, map_castP_mergePairs, UcircPairs_mergePairs_total]

/-- (e) … and the model does return a well-formed element on the glued list -/
theorem fromAngles_mergePairs_returns (pa pb : List (ℚ × ℚ)) (ga gb : LA ℚ)
    (ha : LA.fromAngles pa = .ok ga) (hb : LA.fromAngles pb = .ok gb) :
    ∃ g, LA.fromAngles (mergePairs pa pb) = .ok g ∧ g.WF ∧
      (mergePairs pa pb).length + 1 = pa.length + pb.length ∧
      ∀ θ : ℝ, evMat g θ = evMat ga θ * evMat gb θ := by
  have hpa := ne_nil_of_fromAngles_ok ha
  have hpb := ne_nil_of_fromAngles_ok hb
  obtain ⟨c, cs, hc⟩ := List.exists_cons_of_ne_nil (mergeWith_ne_nil_left rotMul pa pb hpa)
  obtain ⟨g, hg, hWF⟩ := fromAngles_returns c cs
  have hg' : LA.fromAngles (mergePairs pa pb) = .ok g := by
    rw [mergePairs, hc]; exact hg
  exact ⟨g, hg', hWF, length_mergePairs pa pb hpa hpb,
    fromAngles_mergePairs_eval pa pb ga gb g ha hb hg'⟩

/-- the rational cast commutes with the junction function -/
theorem castP_rotMul (x y : ℚ × ℚ) : castP (rotMul x y) = rotMul (castP x) (castP y) :=
  QSP.castP_rotMul x y

/-- unit pairs are glued to a unit pair: `rotMul` multiplies `c² + s²` -/
theorem rotMul_normSq {R : Type} [CommRing R] (x y : R × R) :
    (rotMul x y).1 * (rotMul x y).1 + (rotMul x y).2 * (rotMul x y).2
      = (x.1 * x.1 + x.2 * x.2) * (y.1 * y.1 + y.2 * y.2) := QSP.rotMul_normSq x y

/-! ### (f) associativity: the order in which a three-fold product is glued is irrelevant -/

/-- (f) for ALL lists (empty ones included) over an associative `+` (`ℝ`, `ℚ`, …) -/
theorem mergeAngles_assoc {α : Type} [AddSemigroup α] (a b c : List α) :
    mergeAngles (mergeAngles a b) c = mergeAngles a (mergeAngles b c) :=
  mergeWith_assoc _ add_assoc a b c

/-- (f) for ANY `+` (no algebra at all) as soon as the middle list has two entries — always the
    case inside `angseq` -/
theorem mergeAngles_assoc_of_two_le {α : Type} [Add α] (a b c : List α) (hb : 2 ≤ b.length) :
    mergeAngles (mergeAngles a b) c = mergeAngles a (mergeAngles b c) :=
  mergeWith_assoc_of_two_le _ a b c hb

/-- (f) with a one-entry middle list associativity of the junction function IS needed
    (counterexample with subtraction on `ℤ`; floating-point `+` is not associative either) -/
theorem mergeWith_not_assoc :
    mergeWith (fun x y : Int => x - y) (mergeWith (fun x y : Int => x - y) [1] [1]) [1]
      ≠ mergeWith (fun x y : Int => x - y) [1] (mergeWith (fun x y : Int => x - y) [1] [1]) := by
  decide

theorem mergePairs_assoc {R : Type} [CommRing R] (a b c : List (R × R)) :
    mergePairs (mergePairs a b) c = mergePairs a (mergePairs b c) :=
  mergeWith_assoc _ rotMul_assoc a b c

/-! ### non-vacuity -/

/-- kernel-checked runs of the glue on rational phases: `[1, 2, 1/2] ⊔ [3, 4] = [1, 2, 7/2, 4]`
    (3 + 2 entries give 4), two leaves `[1/3, 1/4] ⊔ [1/5, 1/6]`, and the totalised cases -/
example : mergeAnglesQ [1, 2, 1 / 2] [3, 4] = [1, 2, 7 / 2, 4] ∧
    mergeAnglesQ [1 / 3, 1 / 4] [1 / 5, 1 / 6] = [1 / 3, 9 / 20, 1 / 6] ∧
    mergeAnglesQ [1 / 3] [1 / 5] = [8 / 15] ∧
    mergeAnglesQ [] [3, 4] = [3, 4] ∧ mergeAnglesQ [3, 4] [] = [3, 4] := by decide +kernel

/-- a kernel-checked run on rational `(cos, sin)` pairs, unit (`(3/5, 4/5)`, `(5/13, 12/13)`,
    junction `(-33/65, 56/65)`) -/
example : mergePairsQ [(1, 0), (3 / 5, 4 / 5)] [(5 / 13, 12 / 13), (0, 1)]
    = [(1, 0), (-33 / 65, 56 / 65), (0, 1)] := by decide +kernel

/-- the hypotheses of (e) are satisfiable: `LA.fromAngles` returns on the two lists and on the
    glued list, and the glued element is the exactly computed PRODUCT of the two elements -/
example :
    (LA.fromAngles [((1 : ℚ), (0 : ℚ)), (3 / 5, 4 / 5)]).toBool = true ∧
    (LA.fromAngles [((5 / 13 : ℚ), (12 / 13 : ℚ)), (0, 1)]).toBool = true ∧
    (LA.fromAngles (mergePairsQ [(1, 0), (3 / 5, 4 / 5)] [(5 / 13, 12 / 13), (0, 1)])).toBool
      = true := by decide +kernel

/-- … so the product statement applies to it -/
example : ∃ ga gb g : LA ℚ, LA.fromAngles [((1 : ℚ), (0 : ℚ)), (3 / 5, 4 / 5)] = .ok ga ∧
    LA.fromAngles [((5 / 13 : ℚ), (12 / 13 : ℚ)), (0, 1)] = .ok gb ∧
    LA.fromAngles (mergePairs [((1 : ℚ), (0 : ℚ)), (3 / 5, 4 / 5)] [(5 / 13, 12 / 13), (0, 1)])
      = .ok g ∧ ∀ θ : ℝ, evMat g θ = evMat ga θ * evMat gb θ := by
  obtain ⟨ga, ha, -⟩ := fromAngles_returns ((1 : ℚ), (0 : ℚ)) [(3 / 5, 4 / 5)]
  obtain ⟨gb, hb, -⟩ := fromAngles_returns ((5 / 13 : ℚ), (12 / 13 : ℚ)) [(0, 1)]
  obtain ⟨g, hg, -, -, h⟩ := fromAngles_mergePairs_returns _ _ ga gb ha hb
  exact ⟨ga, gb, g, ha, hb, hg, h⟩

/-- a recursion tree of `angseq` of degree 3 (a leaf glued to a node of two leaves) exists and
    returns 4 phases -/
example (φ₀ φ₁ φ₂ φ₃ φ₄ φ₅ : ℝ) :
    AngSeq (1 + (1 + 1))
      (fun θ => Ucirc θ [φ₀, φ₁] * (Ucirc θ [φ₂, φ₃] * Ucirc θ [φ₄, φ₅]))
      (mergeAngles [φ₀, φ₁] (mergeAngles [φ₂, φ₃] [φ₄, φ₅])) ∧
    mergeAngles [φ₀, φ₁] (mergeAngles [φ₂, φ₃] [φ₄, φ₅]) = [φ₀, φ₁ + φ₂, φ₃ + φ₄, φ₅] :=
  ⟨AngSeq.node _ (fun θ => Ucirc θ [φ₀, φ₁]) (fun θ => Ucirc θ [φ₂, φ₃] * Ucirc θ [φ₄, φ₅]) 1 (1 + 1)
      _ _ (fun _ => rfl) (AngSeq.leaf _ φ₀ φ₁ (fun _ => rfl))
      (AngSeq.node _ (fun θ => Ucirc θ [φ₂, φ₃]) (fun θ => Ucirc θ [φ₄, φ₅]) 1 1 _ _
        (fun _ => rfl) (AngSeq.leaf _ φ₂ φ₃ (fun _ => rfl)) (AngSeq.leaf _ φ₄ φ₅ (fun _ => rfl))),
    rfl⟩

end QSP.C06c
