/-
  Property C12, Jacobian clause — the product-rule formula used by the specification-level
  Jacobian `jacSpec` (`QSP/Model/Jacobian.lean`) IS the true partial derivative of the response
  of the symmetric protocol with respect to each reduced phase, and the lists `jacSpec` returns
  are the complete cosine (Chebyshev) expansions of the value and of that formula at the
  enclosure centres of the phases (`jacSpec_spec`).  The harness compares these lists with
  `gen_jacobian()`; their distance from the true coefficients is C12c, the algorithm of the code
  C12d.

  Mathematical definitions: `respDef` (`QSP/Proofs/RespDef.lean`), `Ucirc` (`QSP/Proofs/BallSound.lean`),
  `layout` (`QSP/Model/SymQSP.lean`), `positions`/`derivPair`/`imCheb` (`QSP/Model/Jacobian.lean`).
  The lemmas other modules use as well are in `QSP/Proofs/Jacobian.lean`.

  Derivatives of matrix-valued functions are Mathlib's `HasDerivAt` for the (norm-independent)
  product topology of `Matrix (Fin 2) (Fin 2) ℂ`; `HasDerivAtM` is the same statement entry by
  entry (`hasDerivAtM_iff`).
-/
import QSP.Proofs.Jacobian
open Matrix Complex
namespace QSP.C12b
open QSP

/-! ### one factor -/

/-- `d/dφ (cos φ·1 + sin φ·iX) = −sin φ·1 + cos φ·iX` -/
theorem hasDerivAt_rotC (φ : ℝ) :
    HasDerivAt (fun t : ℝ => rotC ((Real.cos t : ℝ) : ℂ) ((Real.sin t : ℝ) : ℂ))
      (rotC (-((Real.sin φ : ℝ) : ℂ)) ((Real.cos φ : ℝ) : ℂ)) φ := QSP.hasDerivAt_rotC φ

/-- the entrywise formulation is the matrix-valued one -/
theorem hasDerivAtM_iff (F : ℝ → M22) (D : M22) (x : ℝ) :
    HasDerivAtM F D x ↔ HasDerivAt F D x := QSP.hasDerivAtM_iff F D x

/-! ### product rule, one position -/

/-- `Ucirc` and its derivative `UcircD` are instances of the same product over pairs -/
theorem Ucirc_eq_pairs (θ : ℝ) (φs : List ℝ) : Ucirc θ φs = UcircPairs θ (φs.map prC) :=
  QSP.Ucirc_eq_pairs θ φs

theorem UcircD_def (θ : ℝ) (φs : List ℝ) (p : ℕ) :
    UcircD θ φs p = UcircPairs θ ((φs.map prC).set p (dprC (φs.getD p 0))) := rfl

/-- the partial derivative of the product with respect to the phase at position `p` is the
    product with the factor at `p` replaced by `rotC (−sin φ_p) (cos φ_p)` -/
theorem hasDerivAt_Ucirc_set (θ : ℝ) (φs : List ℝ) (p : ℕ) (hp : p < φs.length) :
    HasDerivAt (fun t => Ucirc θ (φs.set p t)) (UcircD θ φs p) (φs.getD p 0) := by
  have h := hasDerivAt_Ucirc_set_comp θ φs p hp (fun t => t) 1 _ (hasDerivAt_id (φs.getD p 0))
  simpa only [set_getD_self φs p 0 hp, Complex.ofReal_one, one_smul] using h

/-! ### chain rule for a reduced phase of the palindromic layout -/

theorem jacD_def (θ : ℝ) (par : ℕ) (red : List ℝ) (j : ℕ) :
    jacD θ par red j = ((positions par red.length j).map (fun pk : ℕ × ℚ =>
      (((pk.2 : ℚ) : ℝ) : ℂ) • UcircD θ (layout (par : ℤ) red) pk.1)).sum := rfl

/-- the partial derivative of the full product with respect to reduced phase `j` is the sum,
    over `positions par d j`, of the chain factor (2 for the doubled centre) times the
    one-position derivative -/
theorem hasDerivAt_layout (θ : ℝ) (par : ℕ) (red : List ℝ) (j : ℕ) (hj : j < red.length) :
    HasDerivAt (fun t => Ucirc θ (layout (par : ℤ) (red.set j t))) (jacD θ par red j)
      (red.getD j 0) := QSP.hasDerivAt_layout θ par red j hj

/-! ### the differentiated quantity `Im <0|U_x(a)|0>` -/

/-- one position of an arbitrary phase list -/
theorem hasDerivAt_resp_set (θ : ℝ) (hθ : 0 ≤ Real.sin θ) (φs : List ℝ) (p : ℕ)
    (hp : p < φs.length) :
    HasDerivAt (fun t => respDef .Wx .z (φs.set p t) (Real.cos θ))
      (brG .x (UcircD θ φs p)) (φs.getD p 0) := by
  simpa only [Ucirc_corner_eq_Wx_z θ hθ] using hasDerivAt_brG_x (hasDerivAt_Ucirc_set θ φs p hp)

/-- `∂/∂(red_j) Im <0|U_x(cos θ)|0> = Im <+| Σ k·UcircD |+>` -/
theorem hasDerivAt_resp_layout_im (θ : ℝ) (hθ : 0 ≤ Real.sin θ) (par : ℕ) (red : List ℝ) (j : ℕ)
    (hj : j < red.length) :
    HasDerivAt (fun t => (respDef .Wx .z (layout (par : ℤ) (red.set j t)) (Real.cos θ)).im)
      ((brG .x (jacD θ par red j)).im) (red.getD j 0) :=
  QSP.hasDerivAt_resp_layout_im θ hθ par red j hj

/-- … at every signal value `a ∈ [-1, 1]` -/
theorem hasDerivAt_resp_layout_im_of_mem_Icc (a : ℝ) (ha : a ∈ Set.Icc (-1 : ℝ) 1) (par : ℕ)
    (red : List ℝ) (j : ℕ) (hj : j < red.length) :
    HasDerivAt (fun t => (respDef .Wx .z (layout (par : ℤ) (red.set j t)) a).im)
      ((brG .x (jacD (Real.arccos a) par red j)).im) (red.getD j 0) := by
  have hθ : 0 ≤ Real.sin (Real.arccos a) :=
    Real.sin_nonneg_of_nonneg_of_le_pi (Real.arccos_nonneg a) (Real.arccos_le_pi a)
  have h := hasDerivAt_resp_layout_im (Real.arccos a) hθ par red j hj
  rwa [Real.cos_arccos ha.1 ha.2] at h

/-! ### link to the executable specification `jacSpec`

`jacSpec` feeds rational enclosure centres `(c, s)` of `(cos φ, sin φ)` to `LA.fromAngles`, once
unchanged and once per position with the pair at that position replaced by
`derivPair (c, s) k = (−k s, k c)`, and reads cosine coefficients off with `imCheb`. -/

/-- `LA.fromAngles` on arbitrary rational pairs is the product `UcircPairs` over them -/
theorem fromAngles_eval_pairs (ps : List (ℚ × ℚ)) (g : LA ℚ) (h : LA.fromAngles ps = .ok g)
    (θ : ℝ) : evMat g θ = UcircPairs θ (ps.map castP) := QSP.fromAngles_eval_pairs ps g h θ

/-- with the derivative pair at `pos`: `k` times the product with `rotC (−s) c` at `pos` -/
theorem fromAngles_derivPair_eval (ps : List (ℚ × ℚ)) (pos : ℕ) (hpos : pos < ps.length) (k : ℚ)
    (g : LA ℚ)
    (h : LA.fromAngles (ps.set pos (derivPair (ps.getD pos (1, 0)) k)) = .ok g) (θ : ℝ) :
    evMat g θ = (((k : ℚ) : ℝ) : ℂ) •
      UcircPairs θ ((ps.map castP).set pos
        (-(((ps.getD pos (1, 0)).2 : ℝ) : ℂ), (((ps.getD pos (1, 0)).1 : ℝ) : ℂ))) :=
  QSP.fromAngles_derivPair_eval ps pos hpos k g h θ

/-- for exact pairs this is the term `k · UcircD` of the true derivative -/
theorem fromAngles_derivPair_exact (ps : List (ℚ × ℚ)) (φs : List ℝ)
    (hex : ps.map castP = φs.map prC) (pos : ℕ) (hpos : pos < ps.length) (k : ℚ) (g : LA ℚ)
    (h : LA.fromAngles (ps.set pos (derivPair (ps.getD pos (1, 0)) k)) = .ok g) (θ : ℝ) :
    evMat g θ = (((k : ℚ) : ℝ) : ℂ) • UcircD θ φs pos := by
  rw [fromAngles_derivPair_eval ps pos hpos k g h θ, UcircD, hex]
  have e : castP (ps.getD pos (1, 0)) = prC (φs.getD pos 0) := by
    rw [← getD_map_of_eq castP castP_one_zero, hex, getD_map_of_eq prC prC_zero]
  have e1 := congrArg Prod.fst e
  have e2 := congrArg Prod.snd e
  simp only [castP, prC] at e1 e2
  rw [e1, e2, dprC]

/-- `imCheb` reads the coefficients of `symHalf g.X`, which on the circle is `Im <+| g |+>` -/
theorem symHalf_X_eq_corner_im (g : LA ℚ) (hg : g.WF) (sb : LP ℚ) (h : symHalf g.X = .ok sb)
    (θ : ℝ) : evQ sb θ = (((brG .x (evMat g θ)).im : ℝ) : ℂ) :=
  QSP.symHalf_X_eq_corner_im g hg sb h θ

/-- `imCheb` on the element of `2d − 1 + par` pairs returns ALL cosine (Chebyshev) coefficients
    of `θ ↦ Im <+| product |+>` -/
theorem imCheb_spec (par d : ℕ) (hpar : par ≤ 1) (ps : List (ℚ × ℚ))
    (hlen : ps.length + 1 = 2 * d + par) (g : LA ℚ) (hg : LA.fromAngles ps = .ok g)
    (f : List ℚ) (hf : imCheb par d g = .ok f) (θ : ℝ) :
    f.length = d ∧
    (brG .x (UcircPairs θ (ps.map castP))).im
      = ∑ k ∈ Finset.range d, ((f.getD k 0 : ℚ) : ℝ) * Real.cos (((2 * k + par : ℕ) : ℝ) * θ) :=
  QSP.imCheb_spec par d hpar ps hlen g hg f hf θ

theorem imCheb_spec_T (par d : ℕ) (hpar : par ≤ 1) (ps : List (ℚ × ℚ))
    (hlen : ps.length + 1 = 2 * d + par) (g : LA ℚ) (hg : LA.fromAngles ps = .ok g)
    (f : List ℚ) (hf : imCheb par d g = .ok f) (θ : ℝ) :
    (brG .x (UcircPairs θ (ps.map castP))).im
      = ∑ k ∈ Finset.range d, ((f.getD k 0 : ℚ) : ℝ) *
          (Polynomial.Chebyshev.T ℝ ((2 * k + par : ℕ) : ℤ)).eval (Real.cos θ) := by
  rw [(imCheb_spec par d hpar ps hlen g hg f hf θ).2]
  exact Finset.sum_congr rfl fun k _ => by
    rw [Polynomial.Chebyshev.T_real_cos, Int.cast_natCast]

theorem cosGen_def (par d : ℕ) (c : List ℚ) (θ : ℝ) :
    cosGen par d c θ
      = ∑ k ∈ Finset.range d, ((c.getD k 0 : ℚ) : ℝ) * Real.cos (((2 * k + par : ℕ) : ℝ) * θ) :=
  rfl

theorem jacDPairs_def (θ : ℝ) (par d : ℕ) (l : List (ℂ × ℂ)) (j : ℕ) :
    jacDPairs θ par d l j = ((positions par d j).map (fun pk : ℕ × ℚ => (((pk.2 : ℚ) : ℝ) : ℂ) •
      UcircPairs θ (l.set pk.1 (-(l.getD pk.1 (1, 0)).2, (l.getD pk.1 (1, 0)).1)))).sum := rfl

theorem specPairs_def (par bits : ℕ) (reduced : List ℚ) :
    specPairs par bits reduced
      = ((enclList bits (layout (par : ℤ) reduced)).map Encl.pair).map castP := rfl

/-- the true derivative `jacD` is the functional `jacDPairs` at the exact pairs -/
theorem jacD_eq_jacDPairs (θ : ℝ) (par : ℕ) (red : List ℝ) (j : ℕ) :
    jacD θ par red j = jacDPairs θ par red.length ((layout (par : ℤ) red).map prC) j :=
  QSP.jacD_eq_jacDPairs θ par red j

/-- what `jacSpec` returns (`par ∈ {0, 1}`): `f` and column `j` are the complete cosine
    coefficient lists of `θ ↦ Im <+|U~(θ)|+>` and of `θ ↦ Im <+| jacDPairs θ … j |+>` at the
    enclosure-centre pairs -/
theorem jacSpec_spec (par : ℕ) (hpar : par ≤ 1) (bits : ℕ) (reduced : List ℚ) (f : List ℚ)
    (cols : List (List ℚ)) (h : jacSpec par bits reduced = .ok (f, cols)) :
    f.length = reduced.length ∧ cols.length = reduced.length ∧
    (∀ θ : ℝ, (brG .x (UcircPairs θ (specPairs par bits reduced))).im
      = cosGen par reduced.length f θ) ∧
    ∀ j < reduced.length, (cols.getD j []).length = reduced.length ∧ ∀ θ : ℝ,
      (brG .x (jacDPairs θ par reduced.length (specPairs par bits reduced) j)).im
        = cosGen par reduced.length (cols.getD j []) θ :=
  QSP.jacSpec_spec par hpar bits reduced f cols h

/-- the same functional at the exact pairs is the true partial derivative -/
theorem hasDerivAt_resp_layout_im_pairs (θ : ℝ) (hθ : 0 ≤ Real.sin θ) (par : ℕ) (red : List ℝ)
    (j : ℕ) (hj : j < red.length) :
    HasDerivAt (fun t => (respDef .Wx .z (layout (par : ℤ) (red.set j t)) (Real.cos θ)).im)
      ((brG .x (jacDPairs θ par red.length ((layout (par : ℤ) red).map prC) j)).im)
      (red.getD j 0) := QSP.hasDerivAt_resp_layout_im_pairs θ hθ par red j hj

/-- `jacF` and `jacCol` (what the all-lengths sweep of the check asks the driver for: the value
    list and single columns) are exactly the corresponding parts of `jacSpec` -/
theorem jacSpec_parts (par bits : Nat) (red f : List Rat) (cols : List (List Rat))
    (h : jacSpec par bits red = .ok (f, cols)) :
    jacF par bits red = .ok f ∧
      ∀ j, j < red.length → jacCol par bits red j = .ok (cols.getD j []) :=
  QSP.jacSpec_parts par bits red f cols h

/-! ### non-vacuity -/

example : (jacSpec 1 10 [1 / 4, 1 / 3]).map (fun r => (r.1.length, r.2.map List.length))
    = .ok (2, [2, 2]) := by decide +kernel

end QSP.C12b
