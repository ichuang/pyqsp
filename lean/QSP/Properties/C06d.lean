/-
  Property C06d — the linear system of `pyqsp/decomposition.py :: linear_system(g, ldeg)`:

      M = vstack((hstack((vec_to_mat(ai), vec_to_mat(-ax[::-1]))),
                  hstack((vec_to_mat(ax), vec_to_mat(ai[::-1])))))
      m = vstack((hstack((ones, zeros)), hstack((zeros, ones)),
                  M[:ldeg], M[deg+1 : deg+2*ldeg+1], M[-ldeg:]));   s = (1, 0, …, 0)

  (`ai`, `ax` the coefficient lists of `g.IPoly`, `g.XPoly` aligned on `-deg .. deg`,
  `vec_to_mat(v) = toeplitz(hstack((v, [0]*ldeg)), [0]*(ldeg+1))`.)  The docstring claims
  `M · vec(l) = vec(l * g)` for `l` of degree `ldeg`, and that `m · vec(l) = s` says
  `deg(l * g) ≤ deg - ldeg` and `l(Id) = Id`.  Both claims are proved here, for ALL inputs of
  the stated lengths, over any commutative ring (in particular `ℚ`, the driver's type).  The harness
  compares `linSysQ` entry by entry with the `(m, s)` of the real calls.

  The lemmas are in `QSP/Proofs/LinSys.lean`, the executable definitions `convMat`, `fullM`, `linSys`,
  `mulVec`, `vecOf`, `prodI`, `prodX` (the two halves of `vec(l * g)`) and their `ℚ` instances `…Q` (the driver
  runs `linSysQ`) in `QSP/Model/LinSys.lean`.  `convL`, `addL`, `LP`, `LP.getItem`, `LP.aligned`, `LP.evalAt` are
  the model of `LPoly` (`QSP/Model/LPoly.lean`), `LA.mul` the product of `LAlg`
  (`QSP/Model/LAlg.lean`), `den`/`denL` the denotation in Mathlib's Laurent polynomials
  (`QSP/Proofs/Den.lean`).

  `ldeg = 0`: numpy's `M[-0:]` is the WHOLE matrix; the model does the same (`lastRows`), see
  `linSys_zero`.  The meaning theorems (d) are stated for `ldeg ≥ 1`: `angseq` calls
  `linear_system(g, deg // 2)` for `deg ≥ 2`, so with `1 ≤ ldeg ≤ deg - 1` (on an element of degree 0 it
  passes `ldeg = 0` and recurses without end).  No upper bound on `ldeg` is needed.
-/
import QSP.Proofs.LinSys
open LaurentPolynomial
namespace QSP.C06d
open QSP
variable {R : Type} [CommRing R]

/-! ### (a) shapes -/

/-- (a) `vec_to_mat(v)` has `|v| + ldeg` rows … -/
theorem length_convMat (v : List R) (ldeg : ℕ) : (convMat v ldeg).length = v.length + ldeg :=
  LinSys.length_convMat v ldeg

/-- (a) … of length `ldeg + 1` -/
theorem row_length_convMat (v : List R) (ldeg : ℕ) :
    ∀ r ∈ convMat v ldeg, r.length = ldeg + 1 := LinSys.row_length_convMat v ldeg

/-- (a) `M` has `2 (deg + ldeg + 1)` rows of length `2 (ldeg + 1)` -/
theorem fullM_shape (ai ax : List R) (deg ldeg : ℕ) (hai : ai.length = deg + 1)
    (hax : ax.length = deg + 1) :
    (fullM ai ax ldeg).length = 2 * (deg + ldeg + 1) ∧
    ∀ r ∈ fullM ai ax ldeg, r.length = 2 * (ldeg + 1) := by
  refine ⟨?_, LinSys.row_length_fullM ai ax ldeg⟩
  rw [LinSys.length_fullM_succ hai hax, Nat.add_right_comm]

/-- (a) for `ldeg ≥ 1`: `m` has `2 + 4 ldeg` rows of length `2 (ldeg + 1)`,
    `s = (1, 0, …, 0)`, and the three slices `M[:ldeg]`, `M[deg+1 : deg+2*ldeg+1]`, `M[-ldeg:]`
    have `ldeg`, `2 ldeg`, `ldeg` rows -/
theorem linSys_shape (ai ax : List R) (deg ldeg : ℕ) (hai : ai.length = deg + 1)
    (hax : ax.length = deg + 1) (hl : 1 ≤ ldeg) :
    (linSys ai ax ldeg).1.length = 2 + 4 * ldeg ∧
    (∀ r ∈ (linSys ai ax ldeg).1, r.length = 2 * (ldeg + 1)) ∧
    (linSys ai ax ldeg).2 = 1 :: List.replicate (1 + 4 * ldeg) 0 ∧
    ((fullM ai ax ldeg).take ldeg).length = ldeg ∧
    (((fullM ai ax ldeg).take (deg + 2 * ldeg + 1)).drop (deg + 1)).length = 2 * ldeg ∧
    (lastRows (fullM ai ax ldeg) ldeg).length = ldeg := by
  obtain ⟨h4, h5, h6⟩ := LinSys.length_slices (LinSys.length_fullM_succ (ldeg := ldeg) hai hax)
  refine ⟨LinSys.length_linSys_fst hai hax hl, LinSys.row_length_linSys_fst hai hl,
    LinSys.linSys_snd hai hax hl, h4, h5, ?_⟩
  rw [lastRows, if_neg (Nat.ne_of_gt hl)]
  exact h6

/-- (a) `ldeg = 0`: `M[-0:]` is the whole matrix, in numpy and in the model -/
theorem linSys_zero (ai ax : List R) (deg : ℕ) (hai : ai.length = deg + 1)
    (hax : ax.length = deg + 1) :
    linSys ai ax 0 = ([1, 0] :: [0, 1] :: fullM ai ax 0,
      1 :: List.replicate (1 + 2 * (deg + 1)) 0) := by
  -- the middle slice `M[deg+1 : deg+1]` is empty
  have hmid : ((fullM ai ax 0).take (deg + 2 * 0 + 1)).drop (deg + 1) = [] :=
    List.drop_eq_nil_of_le (List.length_take_le _ _)
  have h1 : (linSys ai ax 0).1 = [1, 0] :: [0, 1] :: fullM ai ax 0 := by
    simp only [linSys, lastRows, ↓reduceIte, List.take_zero, List.nil_append, hai,
      Nat.add_sub_cancel, hmid]
    rfl
  refine Prod.ext h1 ?_
  show 1 :: List.replicate ((linSys ai ax 0).1.length - 1) 0 = _
  rw [h1, List.length_cons, List.length_cons, LinSys.length_fullM ai ax 0 (hai.trans hax.symm), hai,
    Nat.add_sub_cancel, Nat.add_zero, Nat.add_comm]

/-- (a) the exact condition for the row count `2 + 4 ldeg` is `ldeg ≥ 1` -/
theorem linSys_rows_iff (ai ax : List R) (deg ldeg : ℕ) (hai : ai.length = deg + 1)
    (hax : ax.length = deg + 1) :
    (linSys ai ax ldeg).1.length = 2 + 4 * ldeg ↔ 1 ≤ ldeg := by
  refine ⟨fun h => Nat.pos_of_ne_zero ?_,
    fun hl => LinSys.length_linSys_fst hai hax hl⟩
  rintro rfl
  have := (fullM_shape ai ax deg 0 hai hax).1
  rw [linSys_zero ai ax deg hai hax, List.length_cons, List.length_cons] at h
  omega

/-- (a) for `ldeg ≥ 1` the rows of `m`, in the order of the code -/
theorem linSys_fst (ai ax : List R) (deg ldeg : ℕ) (hai : ai.length = deg + 1) (hl : 1 ≤ ldeg) :
    (linSys ai ax ldeg).1 =
      (List.replicate (ldeg + 1) 1 ++ List.replicate (ldeg + 1) 0) ::
      (List.replicate (ldeg + 1) 0 ++ List.replicate (ldeg + 1) 1) ::
      ((fullM ai ax ldeg).take ldeg ++
        ((fullM ai ax ldeg).take (deg + 2 * ldeg + 1)).drop (deg + 1) ++
        (fullM ai ax ldeg).drop ((fullM ai ax ldeg).length - ldeg)) :=
  LinSys.linSys_fst hai hl

/-! ### (b) `vec_to_mat(v) · x` is the convolution -/

/-- (b) `vec_to_mat(v) · x = numpy.convolve(v, x)` (`v ≠ []` is necessary, see the example
    below) -/
theorem mulVec_convMat (v x : List R) (ldeg : ℕ) (hv : v ≠ []) (hx : x.length = ldeg + 1) :
    mulVec (convMat v ldeg) x = convL v x := LinSys.mulVec_convMat v x ldeg hv hx

/-- (b) entry-wise (also for `v = []`): entry `i` is `Σ_{j ≤ i} v[i - j] · x[j]` -/
theorem getD_mulVec_convMat (v x : List R) (ldeg i : ℕ) (hx : x.length = ldeg + 1)
    (hi : i < v.length + ldeg) :
    (mulVec (convMat v ldeg) x).getD i 0
      = ∑ j ∈ Finset.range (i + 1), v.getD (i - j) 0 * x.getD j 0 := by
  rw [← LinSys.dot_convRow v x ldeg i hx, mulVec, convMat, List.map_map, getD_range_map,
    if_pos hi]
  rfl

/-! ### (c) `M · vec(l) = vec(l * g)` -/

/-- (c) list level -/
theorem mulVec_fullM (ai ax lI lX : List R) (deg ldeg : ℕ) (hai : ai.length = deg + 1)
    (hax : ax.length = deg + 1) (hlI : lI.length = ldeg + 1) (hlX : lX.length = ldeg + 1) :
    mulVec (fullM ai ax ldeg) (vecOf lI lX) =
      addL (convL ai lI) (convL ((ax.reverse).map (- ·)) lX) ++
      addL (convL ax lI) (convL ai.reverse lX) :=
  LinSys.mulVec_fullM hai hax hlI hlX

/-- (c) both halves have `deg + ldeg + 1` entries -/
theorem length_prod (ai ax lI lX : List R) (deg ldeg : ℕ) (hai : ai.length = deg + 1)
    (hax : ax.length = deg + 1) (hlI : lI.length = ldeg + 1) (hlX : lX.length = ldeg + 1) :
    (prodI ai ax lI lX).length = deg + ldeg + 1 ∧ (prodX ai ax lI lX).length = deg + ldeg + 1 :=
  ⟨LinSys.length_prodI hai hax hlI hlX, LinSys.length_prodX hai hax hlI hlX⟩

/-- (c) bridge to the algebra model, strongest form: `LA.mul` SUCCEEDS on `l`, `g` and returns
    exactly the pair of the two halves on the window `-(deg + ldeg) .. deg + ldeg` -/
theorem LA_mul_eq (ai ax lI lX : List R) (deg ldeg : ℕ) (hai : ai.length = deg + 1)
    (hax : ax.length = deg + 1) (hlI : lI.length = ldeg + 1) (hlX : lX.length = ldeg + 1) :
    LA.mul ⟨⟨lI, -(ldeg : ℤ), false⟩, ⟨lX, -(ldeg : ℤ), false⟩⟩
        ⟨⟨ai, -(deg : ℤ), false⟩, ⟨ax, -(deg : ℤ), false⟩⟩
      = .ok ⟨⟨prodI ai ax lI lX, -((deg : ℤ) + ldeg), false⟩,
             ⟨prodX ai ax lI lX, -((deg : ℤ) + ldeg), false⟩⟩ :=
  LinSys.LA_mul_eq hai hax hlI hlX

/-- (c) bridge, hypothesis form: whatever `LA.mul` returns has the two halves of `M · vec(l)` as
    its `aligned` coefficient lists on the window, entry `k` is the coefficient of
    `w^(2k - deg - ldeg)`, and the denotations agree -/
theorem LA_mul_aligned (ai ax lI lX : List R) (deg ldeg : ℕ) (hai : ai.length = deg + 1)
    (hax : ax.length = deg + 1) (hlI : lI.length = ldeg + 1) (hlX : lX.length = ldeg + 1)
    (r : LA R)
    (hr : LA.mul ⟨⟨lI, -(ldeg : ℤ), false⟩, ⟨lX, -(ldeg : ℤ), false⟩⟩
        ⟨⟨ai, -(deg : ℤ), false⟩, ⟨ax, -(deg : ℤ), false⟩⟩ = .ok r) :
    r.I.aligned (-((deg : ℤ) + ldeg)) ((deg : ℤ) + ldeg) = .ok (prodI ai ax lI lX) ∧
    r.X.aligned (-((deg : ℤ) + ldeg)) ((deg : ℤ) + ldeg) = .ok (prodX ai ax lI lX) ∧
    (∀ k : ℕ, r.I.getItem (-((deg : ℤ) + ldeg) + 2 * k) = (prodI ai ax lI lX).getD k 0) ∧
    (∀ k : ℕ, r.X.getItem (-((deg : ℤ) + ldeg) + 2 * k) = (prodX ai ax lI lX).getD k 0) ∧
    den r.I = denL (prodI ai ax lI lX) (-((deg : ℤ) + ldeg)) ∧
    den r.X = denL (prodX ai ax lI lX) (-((deg : ℤ) + ldeg)) := by
  rw [LinSys.LA_mul_eq hai hax hlI hlX] at hr
  cases hr
  have a1 := LinSys.aligned_window (LinSys.length_prodI hai hax hlI hlX)
  have a2 := LinSys.aligned_window (LinSys.length_prodX hai hax hlI hlX)
  push_cast at a1 a2
  exact ⟨a1, a2, fun k => LinSys.getItem_window _ _ k, fun k => LinSys.getItem_window _ _ k,
    rfl, rfl⟩

/-! ### (d) the meaning of the selected rows -/

/-- (d) `m · vec(l)`, row block by row block -/
theorem mulVec_linSys (ai ax lI lX : List R) (deg ldeg : ℕ) (hai : ai.length = deg + 1)
    (hax : ax.length = deg + 1) (hlI : lI.length = ldeg + 1) (hlX : lX.length = ldeg + 1)
    (hl : 1 ≤ ldeg) :
    mulVec (linSys ai ax ldeg).1 (vecOf lI lX) =
      lI.sum :: lX.sum ::
        ((prodI ai ax lI lX).take ldeg ++
          ((prodI ai ax lI lX).drop (deg + 1) ++ (prodX ai ax lI lX).take ldeg) ++
          (prodX ai ax lI lX).drop (deg + 1)) :=
  LinSys.mulVec_linSys hai hax hlI hlX hl

/-- (d) on the vector `y = M · vec(l)` itself (first half: entries `k`, second half: entries
    `deg + ldeg + 1 + k`, `k < deg + ldeg + 1`): `m · vec(l) = s` iff the coefficient sums are
    `1`, `0` and the first `ldeg` and the last `ldeg` entries of both halves of `y` vanish -/
theorem linSys_iff_fullM (ai ax lI lX : List R) (deg ldeg : ℕ) (hai : ai.length = deg + 1)
    (hax : ax.length = deg + 1) (hlI : lI.length = ldeg + 1) (hlX : lX.length = ldeg + 1)
    (hl : 1 ≤ ldeg) :
    mulVec (linSys ai ax ldeg).1 (vecOf lI lX) = (linSys ai ax ldeg).2 ↔
      lI.sum = 1 ∧ lX.sum = 0 ∧
      ∀ k, (k < ldeg ∨ (deg < k ∧ k < deg + ldeg + 1)) →
        (mulVec (fullM ai ax ldeg) (vecOf lI lX)).getD k 0 = 0 ∧
        (mulVec (fullM ai ax ldeg) (vecOf lI lX)).getD (deg + ldeg + 1 + k) 0 = 0 := by
  rw [vecOf, LinSys.linSys_iff hai hax hlI hlX hl, LinSys.mulVec_fullM hai hax hlI hlX]
  exact and_congr Iff.rfl (and_congr Iff.rfl (LinSys.getD_halves_iff
    (LinSys.length_prodI hai hax hlI hlX) (LinSys.length_prodX hai hax hlI hlX)
    (Nat.le_succ_of_le (Nat.le_add_left ldeg deg))))

/-- (d) the same on the two halves `prodI`, `prodX` (entries beyond the lists read as `0`) -/
theorem linSys_iff (ai ax lI lX : List R) (deg ldeg : ℕ) (hai : ai.length = deg + 1)
    (hax : ax.length = deg + 1) (hlI : lI.length = ldeg + 1) (hlX : lX.length = ldeg + 1)
    (hl : 1 ≤ ldeg) :
    mulVec (linSys ai ax ldeg).1 (vecOf lI lX) = (linSys ai ax ldeg).2 ↔
      lI.sum = 1 ∧ lX.sum = 0 ∧
      ∀ k, (k < ldeg ∨ deg < k) →
        (prodI ai ax lI lX).getD k 0 = 0 ∧ (prodX ai ax lI lX).getD k 0 = 0 :=
  LinSys.linSys_iff hai hax hlI hlX hl

theorem evalAt_one_eq_sum (l : List R) (d : ℤ) : (⟨l, d, false⟩ : LP R).evalAt 1 1 = l.sum := by
  have h := evalL_eq (1 : Rˣ) l d
  rw [inv_one, Units.val_one] at h
  exact h.trans (DS.e1_denL l d)

/-- (d) algebra level: `m · vec(l) = s`  iff  `l(1) = Id` (`l.I(1) = 1`, `l.X(1) = 0`) and
    `deg (l * g) ≤ deg - ldeg` (every coefficient of `w^key`, `|key| > deg - ldeg`, of both
    components of the model product vanishes) -/
theorem linSys_iff_alg (ai ax lI lX : List R) (deg ldeg : ℕ) (hai : ai.length = deg + 1)
    (hax : ax.length = deg + 1) (hlI : lI.length = ldeg + 1) (hlX : lX.length = ldeg + 1)
    (hl : 1 ≤ ldeg) (r : LA R)
    (hr : LA.mul ⟨⟨lI, -(ldeg : ℤ), false⟩, ⟨lX, -(ldeg : ℤ), false⟩⟩
        ⟨⟨ai, -(deg : ℤ), false⟩, ⟨ax, -(deg : ℤ), false⟩⟩ = .ok r) :
    mulVec (linSys ai ax ldeg).1 (vecOf lI lX) = (linSys ai ax ldeg).2 ↔
      (⟨lI, -(ldeg : ℤ), false⟩ : LP R).evalAt 1 1 = 1 ∧
      (⟨lX, -(ldeg : ℤ), false⟩ : LP R).evalAt 1 1 = 0 ∧
      ∀ key : ℤ, (deg : ℤ) - ldeg < |key| → r.I.getItem key = 0 ∧ r.X.getItem key = 0 := by
  rw [LinSys.LA_mul_eq hai hax hlI hlX] at hr
  cases hr
  rw [LinSys.linSys_iff_win hai hax hlI hlX hl, ← LinSys.X_prod lI lX ldeg hai hax,
    evalAt_one_eq_sum, evalAt_one_eq_sum]
  simp only [DS.ev1, DS.X, DS.e1_denL, Prod.mk.injEq, DS.Win, and_assoc]
  -- `getItem` reads the coefficient of the denotation, and `e < |key|` is `key < -e ∨ e < key`
  refine and_congr Iff.rfl (and_congr Iff.rfl (forall_congr' fun key => ?_))
  rw [getItem_eq, getItem_eq, lt_abs, lt_neg, or_comm, Nat.cast_add]
  rfl

/-! ### the `ℚ` instances -/

/-- (d) for the `ℚ` instances; `linSysQ` is the function the driver runs -/
theorem linSysQ_iff (ai ax lI lX : List ℚ) (deg ldeg : ℕ) (hai : ai.length = deg + 1)
    (hax : ax.length = deg + 1) (hlI : lI.length = ldeg + 1) (hlX : lX.length = ldeg + 1)
    (hl : 1 ≤ ldeg) :
    mulVecQ (linSysQ ai ax ldeg).1 (vecOf lI lX) = (linSysQ ai ax ldeg).2 ↔
      lI.sum = 1 ∧ lX.sum = 0 ∧
      ∀ k, (k < ldeg ∨ deg < k) →
        (prodI ai ax lI lX).getD k 0 = 0 ∧ (prodX ai ax lI lX).getD k 0 = 0 :=
  LinSys.linSys_iff hai hax hlI hlX hl

/-- (c) for the `ℚ` instances -/
theorem mulVecQ_fullMQ (ai ax lI lX : List ℚ) (deg ldeg : ℕ) (hai : ai.length = deg + 1)
    (hax : ax.length = deg + 1) (hlI : lI.length = ldeg + 1) (hlX : lX.length = ldeg + 1) :
    mulVecQ (fullMQ ai ax ldeg) (vecOf lI lX) = prodI ai ax lI lX ++ prodX ai ax lI lX :=
  LinSys.mulVec_fullM hai hax hlI hlX

/-! ### non-vacuity (kernel-checked on small rational inputs) -/

/-- the system of `g = (1/2 w⁻² + 1/3 w²) + (1/5) iX`, `ldeg = 1`, as numpy prints it -/
example : linSysQ [1/2, 0, 1/3] [0, 1/5, 0] 1 =
    ([[1, 1, 0, 0],
      [0, 0, 1, 1],
      [1/2, 0, 0, 0],
      [0, 1/3, 0, 0],
      [0, 0, 1/3, 0],
      [0, 0, 0, 1/2]], [1, 0, 0, 0, 0, 0]) := by decide +kernel

/-- its matrix `M` -/
example : fullMQ [1/2, 0, 1/3] [0, 1/5, 0] 1 =
    [[1/2, 0, 0, 0],
     [0, 1/2, -1/5, 0],
     [1/3, 0, 0, -1/5],
     [0, 1/3, 0, 0],
     [0, 0, 1/3, 0],
     [1/5, 0, 0, 1/3],
     [0, 1/5, 1/2, 0],
     [0, 0, 0, 1/2]] := by decide +kernel

/-- `ldeg = 2`, `deg = 2` (`linear_system` of the code returns the same `10 × 6` matrix) -/
example : linSysQ [1, 2, 3] [4, 5, 6] 2 =
    ([[1, 1, 1, 0, 0, 0],
      [0, 0, 0, 1, 1, 1],
      [1, 0, 0, -6, 0, 0],
      [2, 1, 0, -5, -6, 0],
      [0, 3, 2, 0, -4, -5],
      [0, 0, 3, 0, 0, -4],
      [4, 0, 0, 3, 0, 0],
      [5, 4, 0, 2, 3, 0],
      [0, 6, 5, 0, 1, 2],
      [0, 0, 6, 0, 0, 1]], [1, 0, 0, 0, 0, 0, 0, 0, 0, 0]) := by decide +kernel

/-- `ldeg = 0`: the whole matrix is appended (numpy's `M[-0:]`) -/
example : linSysQ [1, 2, 3] [4, 5, 6] 0 =
    ([[1, 0], [0, 1], [1, -6], [2, -5], [3, -4], [4, 3], [5, 2], [6, 1]],
     [1, 0, 0, 0, 0, 0, 0, 0]) := by decide +kernel

/-- an instance of (c): `l = (w⁻¹ + 2 w) + (3 w⁻¹ + 4 w) iX` -/
example : mulVecQ (fullMQ [1/2, 0, 1/3] [0, 1/5, 0] 1) (vecOf [1, 2] [3, 4]) =
    [1/2, 2/5, -7/15, 2/3] ++ [1, 23/15, 19/10, 2] ∧
    (prodI [1/2, 0, 1/3] [0, 1/5, 0] [1, 2] [3, 4] : List ℚ) = [1/2, 2/5, -7/15, 2/3] ∧
    (prodX [1/2, 0, 1/3] [0, 1/5, 0] [1, 2] [3, 4] : List ℚ) = [1, 23/15, 19/10, 2] := by
  decide +kernel

/-- … and the model product `l * g`, computed by the kernel, has these two lists on the window
    `-3 .. 3` (fields: coefficients, lowest power, zero flag of `I` and of `X`) -/
example : (LA.mul (⟨⟨[1, 2], -1, false⟩, ⟨[3, 4], -1, false⟩⟩ : LA ℚ)
      ⟨⟨[1/2, 0, 1/3], -2, false⟩, ⟨[0, 1/5, 0], -2, false⟩⟩).toOption.map
      (fun r => (r.I.coefs, r.I.dmin, r.I.iszero, r.X.coefs, r.X.dmin, r.X.iszero))
    = some ([1/2, 2/5, -7/15, 2/3], -3, false, [1, 23/15, 19/10, 2], -3, false) := by
  decide +kernel

/-- an instance of (d), satisfied side: `g = w²` (`ai = [0, 0, 1]`, `ax = 0`), `l = w⁻¹`:
    `l(1) = Id` and `l * g = w` has degree `1 = 2 - 1`; the system is satisfied -/
example : mulVecQ (linSysQ [0, 0, 1] [0, 0, 0] 1).1 (vecOf [1, 0] [0, 0])
    = (linSysQ [0, 0, 1] [0, 0, 0] 1).2 := by decide +kernel

/-- … and both sides of the equivalence (d) hold for it (right-hand side checked directly) -/
example : ([1, 0] : List ℚ).sum = 1 ∧ ([0, 0] : List ℚ).sum = 0 ∧
    (prodI [0, 0, 1] [0, 0, 0] [1, 0] [0, 0] : List ℚ) = [0, 0, 1, 0] ∧
    (prodX [0, 0, 1] [0, 0, 0] [1, 0] [0, 0] : List ℚ) = [0, 0, 0, 0] := by decide +kernel

/-- the hypotheses of (d) are satisfiable and the theorem applies to a kernel-computed system -/
example : ([1, 0] : List ℚ).sum = 1 ∧ ([0, 0] : List ℚ).sum = 0 ∧
    ∀ k, (k < 1 ∨ 2 < k) →
      (prodI [0, 0, 1] [0, 0, 0] [1, 0] [0, 0] : List ℚ).getD k 0 = 0 ∧
      (prodX [0, 0, 1] [0, 0, 0] [1, 0] [0, 0] : List ℚ).getD k 0 = 0 :=
  (linSysQ_iff [0, 0, 1] [0, 0, 0] [1, 0] [0, 0] 2 1 rfl rfl rfl rfl (le_refl 1)).mp
    (by decide +kernel)

/-- a generic instance of (d): `g = R₀ W R₁ W R₂` with the rational rotations
    `(cos, sin) = (3/5, 4/5), (5/13, 12/13), (8/17, 15/17)` (as `LA.fromAngles` computes it,
    `deg = 2`) and `l = R₀ W⁻¹ R₀⁻¹` (`ldeg = 1`): `l(1) = Id`, `l * g = R₀ R₁ W R₂` has degree
    `1`; the system is satisfied, and the outer entries of both halves of `M · vec(l)` vanish -/
example :
    let ai : List ℚ := [-60/221, -924/1105, 24/221]
    let ax : List ℚ := [32/221, -432/1105, 45/221]
    let lI : List ℚ := [9/25, 16/25]
    let lX : List ℚ := [-12/25, 12/25]
    (LA.fromAngles [((3 : ℚ)/5, (4 : ℚ)/5), (5/13, 12/13), (8/17, 15/17)]).toOption.map
        (fun g => (g.I.coefs, g.I.dmin, g.X.coefs, g.X.dmin)) = some (ai, -2, ax, -2) ∧
    mulVecQ (linSysQ ai ax 1).1 (vecOf lI lX) = (linSysQ ai ax 1).2 ∧
    mulVecQ (fullMQ ai ax 1) (vecOf lI lX)
      = [0, -168/221, -264/1105, 0] ++ [0, 448/1105, -99/221, 0] := by decide +kernel

/-- an instance of (d), violated side: `l = w` has `l(1) = Id` but `l * g = w³` has degree
    `3 > 2 - 1`; the system is NOT satisfied (the last entry of the `I` half is `1`) -/
example : mulVecQ (linSysQ [0, 0, 1] [0, 0, 0] 1).1 (vecOf [0, 1] [0, 0])
    = [1, 0, 0, 1, 0, 0] ∧
    (linSysQ [0, 0, 1] [0, 0, 0] 1).2 = [1, 0, 0, 0, 0, 0] := by decide +kernel

/-- (b) needs `v ≠ []`: for the empty list `vec_to_mat` still has `ldeg` (zero) rows while the
    convolution is empty -/
example : mulVecQ (convMatQ [] 1) [1, 1] = [0] ∧ (convL ([] : List ℚ) [1, 1]) = [] := by
  decide +kernel

end QSP.C06d
