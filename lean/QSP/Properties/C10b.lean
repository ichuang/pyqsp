/-
  Property C10 ("for any phase list ... arbitrary real phases"): the defined response depends on each
  phase only modulo whole turns.  For every signal operator, measurement, signal value, phase list and
  list of integers of the same length,

      respDef so me [φ_0 + 2π k_0, …, φ_n + 2π k_n] a = respDef so me [φ_0, …, φ_n] a .

  This lets the correspondence harness compare the real code at phases of 1e8 or 1e15 (where a change
  such as `np.remainder(phi, 2*np.pi)` costs 4e-17·|phi|) with the executable model: the harness
  shifts such a phase by a whole number of turns before handing it over; the exact shift is covered
  by this theorem, the rounding of the irrational shift (2^-199 per phase) by the comparison
  tolerance (DESIGN.md 0.2).  Proofs: `QSP/Proofs/Periodic.lean`.
-/
import QSP.Proofs.Periodic
namespace QSP.C10b
open QSP Real

theorem Udef_shift_turns (so : SigOp) (a : ℝ) (φs : List ℝ) (ks : List ℤ) (h : ks.length = φs.length) :
    Udef so a (List.zipWith (fun φ (k : ℤ) => φ + k * (2 * π)) φs ks) = Udef so a φs :=
  QSP.Udef_shift_turns so a φs ks h

theorem respDef_shift_turns (so : SigOp) (me : Meas) (a : ℝ) (φs : List ℝ) (ks : List ℤ)
    (h : ks.length = φs.length) :
    respDef so me (List.zipWith (fun φ (k : ℤ) => φ + k * (2 * π)) φs ks) a = respDef so me φs a :=
  QSP.respDef_shift_turns so me a φs ks h

/-- a single phase operator is 2π-periodic (the step the two theorems above iterate) -/
theorem phaseDef_add_turns (so : SigOp) (φ : ℝ) (k : ℤ) :
    phaseDef so (φ + k * (2 * π)) = phaseDef so φ := QSP.phaseDef_add_turns so φ k

/-- non-vacuity: the hypothesis is a length equation any pair of equally long lists meets -/
example : ([15915494309, -3, 0] : List ℤ).length = ([1e11, 2, 0.5] : List ℝ).length := rfl

end QSP.C10b
