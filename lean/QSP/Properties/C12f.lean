/-
  Property C12, Jacobian clause: the end-to-end quantitative statement for `gen_jacobian()`.

  * `asmEntry_stab`: the assembly (`JacImpl.jacAssemble`: mirror / sign extension, real DFT,
    doubling, `/(4d)`, slicing) is linear in the sample matrix and every output entry moves by at
    most `2ε` when the samples (rows `0..d` of the column) move by at most `ε`; only
    `|cosTab[j]| ≤ 1` is used.
  * `gen_jacobian_rat_err`: for the sample matrix the model `jacImplPt` computes at rational
    inputs within `δ` of `(cos 2φ_k, sin 2φ_k)` and of the node values `(cos θ_n, sin θ_n)`,
    `θ_n = n·π/(2d)`, every assembled entry of `f` is within `2·jacImplErr d δ` of
    `chebCoefs par red` (the Chebyshev coefficients of `a ↦ Im <0|U_x(a)|0>`) and every entry of
    `df` within the same bound of `dCoefs par red c` (the coefficients of the partial derivative;
    by `C12c.hasDerivAt_chebCoefs` the partial derivatives of the coefficients).  The DFT cosines
    are the exact ones here.

  Not covered: rounding of the code's own floating-point operations and of the FFT twiddle
  factors (tolerance of the comparison with the model assembly, `sym.jacasm`).  Proofs:
  `QSP/Proofs/JacAsmErr.lean`.
-/
import QSP.Proofs.JacAsmErr
namespace QSP.C12f
open QSP QSP.JacImpl

theorem jacAssemble_entries (par d : ℕ) (hpar : par ≤ 1) (cosTab : List ℝ) (dd2 : ℝ)
    (M : List (List ℝ)) :
    jacAssemble par d cosTab dd2 M
      = ((List.range d).map fun i => asmEntry par d cosTab dd2 M (par + 2 * i) d,
         (List.range d).map fun i => (List.range d).map fun c =>
           asmEntry par d cosTab dd2 M (par + 2 * i) c) :=
  QSP.JacImpl.jacAssemble_entries par d hpar cosTab dd2 M

/-- sup-norm stability of one assembled entry -/
theorem asmEntry_stab (par d : ℕ) (hd : 0 < d) (cosTab : List ℝ)
    (hcos : ∀ j < 4 * d, |cosTab.getD j 0| ≤ 1) (M M' : List (List ℝ)) (c : ℕ) (ε : ℝ)
    (hM : ∀ n ≤ d, |(M.getD n []).getD c 0 - (M'.getD n []).getD c 0| ≤ ε) (r : ℕ) :
    |asmEntry par d cosTab ((4 * d : ℕ) : ℝ) M r c - asmEntry par d cosTab ((4 * d : ℕ) : ℝ) M' r c|
      ≤ 2 * ε := QSP.JacImpl.asmEntry_stab par d hd cosTab hcos M M' c ε hM r

/-- samples within `E` of the exact ones: assembled entries within `2E` of the coefficients -/
theorem asmEntry_near (par : ℕ) (hpar : par ≤ 1) (red : List ℝ) (hne : red ≠ []) (cosTab : List ℝ)
    (hcos : ∀ j < 4 * red.length,
      cosTab.getD j 0 = Real.cos (2 * Real.pi * (j : ℝ) / ((4 * red.length : ℕ) : ℝ)))
    (M : List (List ℝ)) (E : ℝ)
    (hM : ∀ n ≤ red.length, ∀ c ≤ red.length,
      |(M.getD n []).getD c 0 - ((sampleMat par red).getD n []).getD c 0| ≤ E)
    (i : ℕ) (hi : i < red.length) :
    |asmEntry par red.length cosTab ((4 * red.length : ℕ) : ℝ) M (par + 2 * i) red.length
        - (chebCoefs par red).getD i 0| ≤ 2 * E ∧
    ∀ c < red.length,
      |asmEntry par red.length cosTab ((4 * red.length : ℕ) : ℝ) M (par + 2 * i) c
        - (dCoefs par red c).getD i 0| ≤ 2 * E :=
  QSP.JacImpl.asmEntry_near par hpar red hne cosTab hcos M E hM i hi

theorem ratSampleMat_def (par : ℕ) (Pq : List (ℚ × ℚ)) (nodes : ℕ → ℚ × ℚ) (d : ℕ) :
    ratSampleMat par Pq nodes d = (List.range (d + 1)).map fun n =>
      (jacImplPt par Pq (nodes n).1 (nodes n).2).map (fun q : ℚ => (q : ℝ)) := rfl

theorem gen_jacobian_rat_err (par : ℕ) (hpar : par ≤ 1) (red : List ℝ) (hne : red ≠ [])
    (cosTab : List ℝ)
    (hcos : ∀ j < 4 * red.length,
      cosTab.getD j 0 = Real.cos (2 * Real.pi * (j : ℝ) / ((4 * red.length : ℕ) : ℝ)))
    (Pq : List (ℚ × ℚ)) (nodes : ℕ → ℚ × ℚ) (δ : ℚ) (hδ : 0 ≤ δ)
    (hlen : Pq.length = red.length)
    (hP : ∀ q ∈ (Pq.map castP2).zip (pairs2Of red),
      |q.1.1 - q.2.1| ≤ (δ : ℝ) ∧ |q.1.2 - q.2.2| ≤ (δ : ℝ))
    (hnodes : ∀ n ≤ red.length,
      |((nodes n).1 : ℝ) - Real.cos (asmNode red.length n)| ≤ (δ : ℝ) ∧
      |((nodes n).2 : ℝ) - Real.sin (asmNode red.length n)| ≤ (δ : ℝ))
    (i : ℕ) (hi : i < red.length) :
    |asmEntry par red.length cosTab ((4 * red.length : ℕ) : ℝ)
          (ratSampleMat par Pq nodes red.length) (par + 2 * i) red.length
        - (chebCoefs par red).getD i 0| ≤ 2 * ((jacImplErr red.length δ : ℚ) : ℝ) ∧
    ∀ c < red.length,
      |asmEntry par red.length cosTab ((4 * red.length : ℕ) : ℝ)
          (ratSampleMat par Pq nodes red.length) (par + 2 * i) c
        - (dCoefs par red c).getD i 0| ≤ 2 * ((jacImplErr red.length δ : ℚ) : ℝ) :=
  QSP.JacImpl.gen_jacobian_rat_err par hpar red hne cosTab hcos Pq nodes δ hδ hlen hP hnodes i hi

/-! ### non-vacuity -/

/-- the assembly is executable on rationals, entry by entry (`d = 1`, parity 1) -/
example : asmEntry (R := Rat) 1 1 [1, 0, -1, 0] 4 [[7, 3], [0, 0]] 1 1 = 3 := by decide +kernel

/-- the end-to-end radius at `δ = 2^-50`, `d = 60` -/
example : 2 * jacImplErr 60 (1 / 2 ^ 50) < 4 / 10 ^ 12 := by decide +kernel

end QSP.C12f
