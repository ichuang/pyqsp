/-
  Property C08, representation side: conjugation of an algebra element is an involution on the stored
  representation.  `Properties/C08.lean` proves that `~g` DENOTES the conjugate matrix; a conjugate whose
  stored metadata went stale (right coefficients and lowest power, wrong cached highest power) denotes
  the right matrix when read off, yet every later product with it is wrong.  In the executable model the
  stored data are only the coefficient lists, the lowest powers and the zero flags, and `~(~g)` gives
  back exactly `g`; the correspondence check (harness/props/c08.py, `derived`) feeds RESULTS of real
  operations back into further operations and compares them with the model applied to what those
  results say they are.
-/
import QSP.Proofs.LAOps
namespace QSP.C08b
open QSP

theorem conj_conj {R : Type} [Zero R] [Add R] [Mul R] [InvolutiveNeg R] (g : LA R)
    (hI : g.I.WF) (hX : g.X.WF) (hc : g.consistent = true) :
    ∃ c, g.conj = .ok c ∧ c.conj = .ok g := QSP.LRange.conj_conj g hI hX hc

/-! non-vacuity: an element with asymmetric ranges meets the hypotheses (`LP.mk'` of a non-empty list is not
    flagged zero, so `WF` is the non-emptiness checked here) -/
def g1 : LA Int := ⟨LP.mk' [2, 0, 1] (-1), LP.mk' [0, 4] 1⟩
example : g1.I.coefs ≠ [] ∧ g1.X.coefs ≠ [] ∧ g1.consistent = true := by decide +kernel
example : (g1.conj.toOption.map (fun c => (c.I.dmin, c.I.coefs, c.X.dmin, c.X.coefs))) = some (-3, [1, 0, 2], 1, [0, -4]) := by decide +kernel

end QSP.C08b
