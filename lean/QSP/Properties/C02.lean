/-
  Property C02 — the phases `QuantumSignalProcessingPhases(P, signal_operator="Wx", measurement="z")`
  returns for a complex polynomial `P = pre + i pim` realise `P` as the `Wx / z` response
  `<0|U_x(a)|0>` of the mathematical definition within `100 tol`, at EVERY signal value `a ∈ [-1, 1]`.
  Proved: acceptance by the executable validator `validC02` (`QSP/Model/Validators.lean`) implies
  this; the harness applies the validator to what the library returns.

  The proofs are in `QSP/Proofs/ValidPhase.lean`, `QSP/Proofs/Response.lean`; the response `respDef`
  of the definition is in `QSP/Proofs/RespDef.lean`, `polyAt t x = Σ_k t_k x^k` in
  `QSP/Proofs/Series.lean`.
-/
import QSP.Proofs.ValidPhase
open Complex
namespace QSP.C02
open QSP

/-- acceptance by `validC02` means: as many phases as coefficients, real and imaginary
    coefficient vectors of equal length, and `<0|U_x(a)|0>` within `100 tol` of
    `pre(a) + i pim(a)` at every `a ∈ [-1, 1]` -/
theorem validC02_sound (pre pim : List ℚ) (tol : ℚ) (phis : List ℚ) (bits depth : ℕ) (v : VOut)
    (h : validC02 pre pim tol phis bits depth = .ok v) (hv : v.ok = true) :
    phis.length = pre.length ∧ pim.length = pre.length ∧ ∀ a : ℝ, a ∈ Set.Icc (-1 : ℝ) 1 →
      ‖respDef .Wx .z (phis.map (fun q : ℚ => (q : ℝ))) a -
          (((polyAt pre a : ℝ) : ℂ) + Complex.I * ((polyAt pim a : ℝ) : ℂ))‖
        ≤ 100 * (tol : ℝ) :=
  QSP.validC02_sound pre pim tol phis bits depth v h hv

/-- `<+|U_z|+> = <0|U_x|0>`: the same statement holds for the `Wz / x` response -/
theorem resp_Wz_x_eq_Wx_z (φs : List ℝ) (a : ℝ) : respDef .Wz .x φs a = respDef .Wx .z φs a :=
  QSP.resp_Wz_x_eq_Wx_z φs a

/-! ### non-vacuity -/

/-- evaluated once by the kernel, for the examples below -/
theorem validC02_accepted :
    (validC02 [0, 5403 / 10000] [0, 8415 / 10000] (1 / 1000) [1 / 2, 1 / 2] 12 10).map
      (·.ok) = .ok true := by decide +kernel

/-- a kernel-checked accepting run: phases `(1/2, 1/2)` give `e^{i} a`, i.e.
    `P(a) ≈ (0.5403 + 0.8415 i) a` … -/
example : (validC02 [0, 5403 / 10000] [0, 8415 / 10000] (1 / 1000) [1 / 2, 1 / 2] 12 10).map
    (·.ok) = .ok true := validC02_accepted

/-- … so the theorem applies to it -/
example : ∀ a : ℝ, a ∈ Set.Icc (-1 : ℝ) 1 →
    ‖respDef .Wx .z ([1 / 2, 1 / 2].map (fun q : ℚ => (q : ℝ))) a -
        (((polyAt [0, 5403 / 10000] a : ℝ) : ℂ) +
          Complex.I * ((polyAt [0, 8415 / 10000] a : ℝ) : ℂ))‖ ≤ 100 * ((1 / 1000 : ℚ) : ℝ) := by
  obtain ⟨v, h, hv⟩ := ok_of_map_ok validC02_accepted
  exact (validC02_sound _ _ _ _ _ _ v h hv).2.2

/-- a wrong imaginary part is refused … -/
example : (validC02 [0, 5403 / 10000] [0, 0] (1 / 1000) [1 / 2, 1 / 2] 12 10).map (·.ok)
    = .ok false := by decide +kernel

/-- … and so are coefficient vectors of different lengths (stage 0) -/
example : (validC02 [0, 5403 / 10000] [0] (1 / 1000) [1 / 2, 1 / 2] 12 10).map
    (fun v => (v.ok, v.stage)) = .ok (false, 0) := by decide +kernel

end QSP.C02
