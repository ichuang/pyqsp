/-
  Property C06g — `phases_unique_up_to_gauge`: the phases of a QSP element are determined up to
  the sign gauge (shifts by multiples of π that cancel overall).

  On `(cos, sin)` pairs a shift of `φ_k` by a multiple of π is the multiplication of the pair by
  `ε_k = ±1`; `DS.scalePairs es ps` is the list with the `k`-th pair multiplied by `es[k]`
  (the `zipWith` of `C08.sign_gauge`).

  * `gauge_converse` (any commutative ring, any scalars): if `∏ ε_k = 1` then
    `LA.fromAngles (scalePairs es ps) = LA.fromAngles ps` — the SAME stored element.  (`C08.sign_gauge`
    states this for the matrix product `anglesProd ι`, which needs a square root of `-1` in the ring;
    this version is for the executable `LA.fromAngles` itself and needs none.)
  * `phases_unique_up_to_gauge` (field; `…_ring` for a commutative ring with regular interior cosines
    and only `±1` as square roots of `1`): `ps`, `qs` with `n + 1 ≥ 1` unit pairs each, interior
    cosines of `ps` non-zero (`ps.tail.dropLast`: no interior phase is an odd multiple of π/2);
    if `fromAngles qs` and `fromAngles ps` have the same denotation then `qs = scalePairs es ps`
    for a sign list `es ∈ {1, -1}^{n+1}` with `∏ es = 1`.
  * `angseq_exact_gauge`: every run `ExactAngSeq g out` (C06f) on `g = fromAngles ps` whose returned
    pairs are unit (the code returns PHASES, whose pairs are unit; the abstract leaf specification of
    `ExactAngSeq` does not impose it, hence the hypothesis) has `out = scalePairs es ps` for such
    a sign list — C06 in exact arithmetic.

  Proofs: `QSP/Proofs/Gauge.lean` (the first pair is fixed up to a sign by the peeling lemma
  `DS.PWin.peel` with `e = 1`, i.e. by the uniqueness of the split with `ldeg = 1`; the sign is carried
  to the next pair).
-/
import QSP.Proofs.Gauge
import Mathlib.Tactic.NormNum
import Mathlib.Algebra.Order.Field.Rat
open LaurentPolynomial
namespace QSP.C06g
open QSP
variable {R : Type} [CommRing R]

/-- `scalePairs es cs` multiplies the `k`-th pair by `es[k]` -/
theorem scalePairs_eq (es : List R) (cs : List (R × R)) :
    DS.scalePairs es cs = List.zipWith (fun e c => (e * c.1, e * c.2)) es cs := rfl

/-- converse: scalars of product `1` (in particular an even number of sign flips) leave the
    stored element unchanged -/
theorem gauge_converse (es : List R) (ps : List (R × R)) (n : ℕ) (hlen : es.length = ps.length)
    (hn : ps.length = n + 1) (hprod : es.prod = 1) :
    LA.fromAngles (DS.scalePairs es ps) = LA.fromAngles ps :=
  DS.fromAngles_scale es ps n hlen hn hprod

/-- the pair-algebra form: scalars scale the element by their product -/
theorem angP_scale (es : List R) (cs : List (R × R)) (h : es.length = cs.length) :
    DS.angP (DS.scalePairs es cs) = DS.rot (es.prod, 0) * DS.angP cs := DS.angP_scale es cs h

/-- the gauge theorem over a commutative ring: regular interior cosines, and `±1` the only square
    roots of `1` -/
theorem phases_unique_up_to_gauge_ring (hsq : ∀ x : R, x * x = 1 → x = 1 ∨ x = -1)
    (ps qs : List (R × R)) (n : ℕ) (hlp : ps.length = n + 1) (hlq : qs.length = n + 1)
    (hup : ∀ c ∈ ps, c.1 ^ 2 + c.2 ^ 2 = 1) (huq : ∀ c ∈ qs, c.1 ^ 2 + c.2 ^ 2 = 1)
    (hreg : ∀ c ∈ ps.tail.dropLast, ∀ x : R, x * c.1 = 0 → x = 0) (gp gq : LA R)
    (hp : LA.fromAngles ps = .ok gp) (hq : LA.fromAngles qs = .ok gq)
    (hI : den gq.I = den gp.I) (hX : den gq.X = den gp.X) :
    ∃ es : List R, es.length = n + 1 ∧ (∀ e ∈ es, e = 1 ∨ e = -1) ∧ es.prod = 1 ∧
      qs = DS.scalePairs es ps :=
  DS.fromAngles_gauge hsq hlp hlq hup huq hreg hp hq hI hX

/-- the gauge theorem over a field -/
theorem phases_unique_up_to_gauge {K : Type} [Field K] (ps qs : List (K × K)) (n : ℕ)
    (hlp : ps.length = n + 1) (hlq : qs.length = n + 1)
    (hup : ∀ c ∈ ps, c.1 ^ 2 + c.2 ^ 2 = 1) (huq : ∀ c ∈ qs, c.1 ^ 2 + c.2 ^ 2 = 1)
    (hcos : ∀ c ∈ ps.tail.dropLast, c.1 ≠ 0) (gp gq : LA K)
    (hp : LA.fromAngles ps = .ok gp) (hq : LA.fromAngles qs = .ok gq)
    (hI : den gq.I = den gp.I) (hX : den gq.X = den gp.X) :
    ∃ es : List K, es.length = n + 1 ∧ (∀ e ∈ es, e = 1 ∨ e = -1) ∧ es.prod = 1 ∧
      qs = DS.scalePairs es ps :=
  DS.fromAngles_gauge (fun _ => mul_self_eq_one_iff.mp) hlp hlq hup huq
    (DS.regular_of_ne_zero hcos) hp hq hI hX

/-- … in particular when the two lists give the same stored element -/
theorem phases_unique_of_eq {K : Type} [Field K] (ps qs : List (K × K)) (n : ℕ)
    (hlp : ps.length = n + 1) (hlq : qs.length = n + 1)
    (hup : ∀ c ∈ ps, c.1 ^ 2 + c.2 ^ 2 = 1) (huq : ∀ c ∈ qs, c.1 ^ 2 + c.2 ^ 2 = 1)
    (hcos : ∀ c ∈ ps.tail.dropLast, c.1 ≠ 0) (h : LA.fromAngles qs = LA.fromAngles ps) :
    ∃ es : List K, es.length = n + 1 ∧ (∀ e ∈ es, e = 1 ∨ e = -1) ∧ es.prod = 1 ∧
      qs = DS.scalePairs es ps := by
  obtain ⟨g, hg, -, -⟩ := DS.fromAngles_spec ps n hlp
  exact phases_unique_up_to_gauge ps qs n hlp hlq hup huq hcos g g hg (h.trans hg) rfl rfl

/-- the pair-algebra form of the gauge theorem -/
theorem gauge_angP (hsq : ∀ x : R, x * x = 1 → x = 1 ∨ x = -1) (ps qs : List (R × R))
    (hlen : ps.length = qs.length) (hne : ps ≠ [])
    (hup : ∀ c ∈ ps, c.1 ^ 2 + c.2 ^ 2 = 1) (huq : ∀ c ∈ qs, c.1 ^ 2 + c.2 ^ 2 = 1)
    (hreg : ∀ c ∈ ps.tail.dropLast, ∀ x : R, x * c.1 = 0 → x = 0)
    (heq : DS.angP qs = DS.angP ps) :
    ∃ es : List R, es.length = ps.length ∧ (∀ e ∈ es, e = 1 ∨ e = -1) ∧ es.prod = 1 ∧
      qs = DS.scalePairs es ps := DS.gauge hsq hlen hne hup huq hreg heq

/-- C06 in exact arithmetic: every exact run of `angseq` returning unit pairs returns the original
    pairs up to the sign gauge -/
theorem angseq_exact_gauge {K : Type} [Field K] {g : LA K} {out : List (K × K)}
    (h : DS.ExactAngSeq g out) (n : ℕ) (ps : List (K × K)) (hlen : ps.length = n + 1)
    (hunit : ∀ c ∈ ps, c.1 ^ 2 + c.2 ^ 2 = 1) (hcos : ∀ c ∈ ps.tail.dropLast, c.1 ≠ 0)
    (hg : LA.fromAngles ps = .ok g) (hout : ∀ c ∈ out, c.1 ^ 2 + c.2 ^ 2 = 1) :
    ∃ es : List K, es.length = n + 1 ∧ (∀ e ∈ es, e = 1 ∨ e = -1) ∧ es.prod = 1 ∧
      out = DS.scalePairs es ps :=
  DS.exact_gauge (fun _ => mul_self_eq_one_iff.mp) h hlen hunit (DS.regular_of_ne_zero hcos) hg hout

/-! ### non-vacuity -/

/-- flipping TWO of the three rational pairs gives the same stored element, flipping ONE does not
    (kernel computation) -/
example :
    let f := fun ps : List (ℚ × ℚ) =>
      (LA.fromAngles ps).toOption.map fun g => (g.I.coefs, g.I.dmin, g.X.coefs, g.X.dmin)
    f [(-3/5, -4/5), (5/13, 12/13), (-8/17, -15/17)] = f [(3/5, 4/5), (5/13, 12/13), (8/17, 15/17)] ∧
    f [(3/5, 4/5), (-5/13, -12/13), (-8/17, -15/17)] = f [(3/5, 4/5), (5/13, 12/13), (8/17, 15/17)] ∧
    f [(-3/5, -4/5), (5/13, 12/13), (8/17, 15/17)] ≠ f [(3/5, 4/5), (5/13, 12/13), (8/17, 15/17)] ∧
    DS.scalePairs [(-1 : ℚ), 1, -1] [(3/5, 4/5), (5/13, 12/13), (8/17, 15/17)]
      = [(-3/5, -4/5), (5/13, 12/13), (-8/17, -15/17)] := by
  decide +kernel

/-- the converse applies to that flip … -/
example : LA.fromAngles (DS.scalePairs [(-1 : ℚ), 1, -1] [(3/5, 4/5), (5/13, 12/13), (8/17, 15/17)])
    = LA.fromAngles [(3/5, 4/5), (5/13, 12/13), (8/17, 15/17)] :=
  gauge_converse _ _ 2 rfl rfl (by norm_num)

/-- … and the gauge theorem applies to the two lists: its hypotheses are satisfiable -/
example : ∃ es : List ℚ, es.length = 2 + 1 ∧ (∀ e ∈ es, e = 1 ∨ e = -1) ∧ es.prod = 1 ∧
    [((-3 : ℚ)/5, (-4 : ℚ)/5), (5/13, 12/13), (-8/17, -15/17)]
      = DS.scalePairs es [(3/5, 4/5), (5/13, 12/13), (8/17, 15/17)] := by
  refine phases_unique_of_eq [((3 : ℚ)/5, (4 : ℚ)/5), (5/13, 12/13), (8/17, 15/17)] _ 2 rfl rfl
    ?_ ?_ ?_ ?_
  · decide +kernel
  · decide +kernel
  · decide +kernel
  · have h := gauge_converse [(-1 : ℚ), 1, -1] [(3/5, 4/5), (5/13, 12/13), (8/17, 15/17)] 2 rfl rfl
      (by norm_num)
    have e : DS.scalePairs [(-1 : ℚ), 1, -1] [(3/5, 4/5), (5/13, 12/13), (8/17, 15/17)]
        = [(-3/5, -4/5), (5/13, 12/13), (-8/17, -15/17)] := by decide +kernel
    rw [e] at h; exact h

end QSP.C06g
