/-
  Property C09, clause "degree and parity of the stored power range" — for the RESULTS of the
  operations.  `Properties/C09.lean` states what each result DENOTES; a result that denotes the
  right polynomial on the wrong stored range (say a product whose exactly-zero top coefficient was
  trimmed) still has the wrong `dmax`, `degree` and positive / negative halves.  These theorems
  fix the stored range of the results of `mul`, `add`, `neg`, `smul`, `inv` on operands that are not
  flagged zero, for every coefficient type with `0`, `+`, `*`, `-`, every list length and every lowest
  power (no range statement for `truncate`, `sub`, the halves, `roundZeros` or a zero-flagged operand); the correspondence check
  (harness/props/c09.py, "stored-range") compares the range of each real `LPoly` result with the model's.

  The range theorems are `LP.On` (`QSP/Proofs/LRep.lean`) read at the window `p.dmin .. p.dmax`; the
  involutions are proved at the end of that file.
-/
import QSP.Proofs.LRep
namespace QSP.C09b
open QSP
variable {R : Type} [Zero R] [Add R] [Mul R] [Neg R]

/-- product of two non-zero polynomials: lowest and highest stored powers add up (nothing is
    trimmed, whatever the coefficient values — also when the top coefficients are exactly 0) -/
theorem mul_range (p q : LP R) (hp : p.coefs ≠ []) (hq : q.coefs ≠ [])
    (zp : p.iszero = false) (zq : q.iszero = false) :
    (p.mul q).dmin = p.dmin + q.dmin ∧ (p.mul q).dmax = p.dmax + q.dmax ∧ (p.mul q).iszero = false :=
  ((LP.On.of hp zp).mul (LP.On.of hq zq)).range

/-- parity of the stored range of a product -/
theorem mul_parity (p q : LP R) (hp : p.coefs ≠ []) (hq : q.coefs ≠ [])
    (zp : p.iszero = false) (zq : q.iszero = false) :
    (p.mul q).parity = (p.parity + q.parity) % 2 := by
  rw [((LP.On.of hp zp).mul (LP.On.of hq zq)).parity, LP.parity, LP.parity, Int.emod_add_emod,
    Int.add_emod_emod]

/-- degree of the stored range of a product -/
theorem mul_degree_le (p q : LP R) (hp : p.coefs ≠ []) (hq : q.coefs ≠ [])
    (zp : p.iszero = false) (zq : q.iszero = false) :
    (p.mul q).degree ≤ p.degree + q.degree := by
  obtain ⟨h1, h2, -⟩ := mul_range p q hp hq zp zq
  unfold LP.degree
  rw [h1, h2]
  omega

/-- sum of two non-zero polynomials of equal parity: stored on the union of the ranges -/
theorem add_range (p q : LP R) (hp : p.coefs ≠ []) (zp : p.iszero = false) (zq : q.iszero = false)
    (hpar : p.parity = q.parity) :
    ∃ r, p.add q = .ok r ∧ r.dmin = min p.dmin q.dmin ∧ r.dmax = max p.dmax q.dmax ∧ r.iszero = false := by
  obtain ⟨e, -, on⟩ := LP.add_eq hp zp zq hpar rfl rfl
  exact ⟨_, e, on.range⟩

/-- negation and scalar multiples keep the stored range (a zero scalar trims nothing) -/
theorem neg_range (p : LP R) (hp : p.coefs ≠ []) (zp : p.iszero = false) :
    p.neg.dmin = p.dmin ∧ p.neg.dmax = p.dmax ∧ p.neg.iszero = false :=
  (LP.On.of hp zp).neg.range

theorem smul_range (c : R) (p : LP R) (hp : p.coefs ≠ []) (zp : p.iszero = false) :
    (LP.smul c p).dmin = p.dmin ∧ (LP.smul c p).dmax = p.dmax ∧ (LP.smul c p).iszero = false :=
  ((LP.On.of hp zp).smul c).range

/-- inversion w -> 1/w mirrors the stored range -/
theorem inv_range (p : LP R) (hp : p.coefs ≠ []) (zp : p.iszero = false) :
    p.inv.dmin = -p.dmax ∧ p.inv.dmax = -p.dmin ∧ p.inv.iszero = false :=
  (LP.On.of hp zp).inv.range

/-- inversion and negation are involutions on the REPRESENTATION (coefficient list, lowest power, zero
    flag), for every well-formed polynomial including the zero sentinel: a result can be inverted back
    and used again as the operand it was -/
theorem inv_inv (p : LP R) (hp : p.WF) : p.inv.inv = p := QSP.LRange.inv_inv p hp

theorem neg_neg {R : Type} [Zero R] [Add R] [Mul R] [InvolutiveNeg R] (p : LP R) (hp : p.WF) :
    p.neg.neg = p := QSP.LRange.neg_neg p hp

/-! non-vacuity: concrete operands with exactly-zero end coefficients meet the hypotheses, and the
    conclusions are the numbers a reader expects (w^1 + 0 w^3 times 1 lives on powers 1..3) -/
def p1 : LP Int := LP.mk' [1, 0] 1
def q1 : LP Int := LP.mk' [1] 0
example : p1.coefs ≠ [] ∧ q1.coefs ≠ [] ∧ p1.iszero = false ∧ q1.iszero = false := by decide +kernel
example : (p1.mul q1).dmin = 1 ∧ (p1.mul q1).dmax = 3 ∧ (p1.mul q1).degree = 3 := by decide +kernel

def p2 : LP Int := LP.mk' [1, 2, 3, 0, 0] (-4)
def q2 : LP Int := LP.mk' [2, 1, 2] (-2)
example : (p2.mul q2).dmin = -6 ∧ (p2.mul q2).dmax = 6 ∧ (p2.mul q2).coefs.length = 7 := by decide +kernel

def p3 : LP Int := LP.mk' [1, 0, 2] (-3)
def q3 : LP Int := LP.mk' [5] 3
example : p3.coefs ≠ [] ∧ p3.iszero = false ∧ q3.iszero = false ∧ p3.parity = q3.parity := by decide +kernel
example : ((p3.add q3).toOption.map (fun r => (r.dmin, r.dmax, r.coefs))) = some (-3, 3, [1, 0, 2, 5]) := by decide +kernel

def p4 : LP Int := LP.mk' [3, 0, -1, 0] (-5)        -- asymmetric range, zero top coefficient
example : p4.coefs ≠ [] ∧ (p4.iszero = true → p4.coefs = [0]) := by decide +kernel
example : p4.inv.dmin = -1 ∧ p4.inv.dmax = 5 ∧ p4.inv.inv.dmin = -5 ∧ p4.inv.inv.coefs = [3, 0, -1, 0] := by decide +kernel

end QSP.C09b
