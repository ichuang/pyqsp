/-
  Property C04 — the completion `G` that `completion_from_root_finding(F, "F", seed, tol)`
  (`completion.py`) returns has the length of `F` and `F F~ + G G~ = 1` coefficient-wise within `tol`
  (`F~(w) = F(1/w)`; real coefficient vectors on the powers `-(n-1), -(n-3), …, n-1`).  Proved:
  acceptance by the executable validator `validC04` (`QSP/Model/Validators.lean`) implies this; the
  harness applies the validator to the exact rational values of the returned floats.

  The proofs are in `QSP/Proofs/ValidCore.lean`; `denL cs d = Σ_j cs[j] T^(d+2j)` (a Mathlib Laurent
  polynomial) is in `QSP/Proofs/Den.lean`, `evQ p θ` (the value at `e^{iθ}`) in
  `QSP/Proofs/AnglesEval.lean`.
-/
import QSP.Proofs.ValidCore
open LaurentPolynomial Complex
namespace QSP.C04
open QSP

/-- acceptance by `validC04` means: `G` has the length of `F`, and EVERY coefficient of the
    Laurent polynomial `F F~ + G G~ − 1` is below `tol` in magnitude -/
theorem validC04_sound (F G : List ℚ) (tol : ℚ) (v : VOut) (h : validC04 F G tol = .ok v)
    (hv : v.ok = true) :
    G.length = F.length ∧ ∀ k : ℤ,
      |(denL F (-(F.length : ℤ) + 1) * invert (denL F (-(F.length : ℤ) + 1)) +
        denL G (-(G.length : ℤ) + 1) * invert (denL G (-(G.length : ℤ) + 1)) - 1).coeff k| < tol :=
  QSP.validC04_sound F G tol v h hv

theorem validC04_ne_nil (F G : List ℚ) (tol : ℚ) (v : VOut) (h : validC04 F G tol = .ok v)
    (hv : v.ok = true) : F ≠ [] := (validC04_spec h hv).2.1

/-- pointwise corollary: `|F(w)F(1/w) + G(w)G(1/w) − 1| ≤ (2n−1) tol` at EVERY point
    `w = e^{iθ}` of the unit circle -/
theorem validC04_pointwise (F G : List ℚ) (tol : ℚ) (v : VOut) (h : validC04 F G tol = .ok v)
    (hv : v.ok = true) (θ : ℝ) :
    ‖evQ (LP.mk' F (-(F.length : ℤ) + 1)) θ * evQ (LP.mk' F (-(F.length : ℤ) + 1)) (-θ) +
      evQ (LP.mk' G (-(G.length : ℤ) + 1)) θ * evQ (LP.mk' G (-(G.length : ℤ) + 1)) (-θ) - 1‖ ≤
      (2 * (F.length : ℝ) - 1) * (tol : ℝ) := QSP.validC04_pointwise F G tol v h hv θ

/-! ### non-vacuity -/

/-- evaluated once by the kernel, for the examples below: a pair whose defect `1001/1000000` is
    below the tolerance -/
theorem validC04_accepted :
    (validC04 [1 / 2, 1 / 2] [-1 / 2, 501 / 1000] (1 / 100)).map (fun v => (v.ok, v.bound))
      = .ok (true, 1001 / 1000000) := by decide +kernel

/-- kernel-checked accepting runs: the constants `3/5, 4/5`; `F = cos θ`, `G = i sin θ` as
    Laurent vectors; and the run above -/
example : (validC04 [3 / 5] [4 / 5] (1 / 100)).map (·.ok) = .ok true ∧
    (validC04 [1 / 2, 1 / 2] [-1 / 2, 1 / 2] (1 / 100)).map (·.ok) = .ok true ∧
    (validC04 [1 / 2, 1 / 2] [-1 / 2, 501 / 1000] (1 / 100)).map (fun v => (v.ok, v.bound))
      = .ok (true, 1001 / 1000000) :=
  ⟨by decide +kernel, by decide +kernel, validC04_accepted⟩

/-- the theorems apply to the last run -/
example (θ : ℝ) :
    ‖evQ (LP.mk' [1 / 2, 1 / 2] (-(([1 / 2, 1 / 2] : List ℚ).length : ℤ) + 1)) θ *
        evQ (LP.mk' [1 / 2, 1 / 2] (-(([1 / 2, 1 / 2] : List ℚ).length : ℤ) + 1)) (-θ) +
      evQ (LP.mk' [-1 / 2, 501 / 1000] (-(([-1 / 2, 501 / 1000] : List ℚ).length : ℤ) + 1)) θ *
        evQ (LP.mk' [-1 / 2, 501 / 1000] (-(([-1 / 2, 501 / 1000] : List ℚ).length : ℤ) + 1)) (-θ)
      - 1‖ ≤ (2 * ((([1 / 2, 1 / 2] : List ℚ).length : ℕ) : ℝ) - 1) * ((1 / 100 : ℚ) : ℝ) := by
  obtain ⟨v, h, hv⟩ := ok_of_map_eq validC04_accepted
  exact validC04_pointwise _ _ _ v h (congrArg Prod.fst hv) θ

/-- a non-unitary pair, a completion of the wrong length and an empty `F` are refused -/
example : (validC04 [3 / 5] [3 / 5] (1 / 100)).map (·.ok) = .ok false ∧
    (validC04 [3 / 5] [4 / 5, 0] (1 / 100)).map (fun v => (v.ok, v.stage)) = .ok (false, 0) ∧
    (validC04 [] [] (1 / 100)).map (fun v => (v.ok, v.stage)) = .ok (false, 0) := by
  decide +kernel

end QSP.C04
