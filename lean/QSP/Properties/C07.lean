/-
  Property C07 — the Laurent-coefficient entry point `angle_sequence(p, eps, suc)`
  (`angle_sequence.py`): the identity part `A(w)` of the Wz sequence DEFINED by the returned phases
  satisfies `max_{|w|=1} |A(w)/suc − p(w)| < eps`, where `p` is the real coefficient vector on the
  powers `-(n-1), -(n-3), …, n-1`.  Proved: acceptance by the executable validator `validC07`
  (`QSP/Model/Validators.lean`) implies this; the harness applies the validator to what the library
  returns.

  The proof is in `QSP/Proofs/ValidPhase.lean`; `Ucirc θ φs = R(φ₀) · (W(θ) R(φ₁)) ⋯ (W(θ) R(φ_n))`
  (true rotations `R(φ) = e^{iφX}`, `W(θ) = diag(e^{iθ}, e^{-iθ})`) is in `QSP/Proofs/BallSound.lean`,
  `FW cs d w = Σ_j cs[j] w^(d+2j)` in `QSP/Proofs/Sup.lean`.
-/
import QSP.Proofs.ValidPhase
open Matrix Complex
namespace QSP.C07
open QSP

/-- acceptance by `validC07` means: as many phases as coefficients, `suc > 0`, and the
    top-left entry `A(w)` of the product defined by the phases satisfies
    `|A(w)/suc − p(w)| < eps` (strictly) at EVERY point `w = e^{iθ}` of the unit circle -/
theorem validC07_sound (p : List ℚ) (eps suc : ℚ) (phis : List ℚ) (bits depth : ℕ) (v : VOut)
    (h : validC07 p eps suc phis bits depth = .ok v) (hv : v.ok = true) :
    phis.length = p.length ∧ 0 < suc ∧ ∀ θ : ℝ,
      ‖(Ucirc θ (phis.map (fun q : ℚ => (q : ℝ)))) 0 0 / ((suc : ℝ) : ℂ) -
          FW (p.map (fun q : ℚ => ((q : ℝ) : ℂ))) (-(p.length : ℤ) + 1)
            (Complex.exp ((θ : ℂ) * Complex.I))‖ < (eps : ℝ) :=
  QSP.validC07_sound p eps suc phis bits depth v h hv

/-- on the upper half circle the entry `A(e^{iθ})` is the `Wz / z` response of the definition
    at the signal `cos θ` -/
theorem Ucirc_00_eq_Wz_z (θ : ℝ) (hθ : 0 ≤ Real.sin θ) (φs : List ℝ) :
    (Ucirc θ φs) 0 0 = respDef .Wz .z φs (Real.cos θ) := QSP.Ucirc_00_eq_Wz_z θ hθ φs

/-! ### non-vacuity -/

/-- evaluated once by the kernel, for the examples below -/
theorem validC07_accepted :
    (validC07 [1 / 4, 1 / 4] (1 / 100) 2 [355 / 452, -355 / 452] 12 10).map (·.ok)
      = .ok true := by decide +kernel

/-- a kernel-checked accepting run: phases `≈ (π/4, −π/4)` give `A(w) ≈ (w⁻¹ + w)/2`, compared
    with `p = (w⁻¹ + w)/4` at `suc = 2` … -/
example : (validC07 [1 / 4, 1 / 4] (1 / 100) 2 [355 / 452, -355 / 452] 12 10).map (·.ok)
    = .ok true := validC07_accepted

/-- … so the theorem applies to it -/
example : ∀ θ : ℝ,
    ‖(Ucirc θ ([355 / 452, -355 / 452].map (fun q : ℚ => (q : ℝ)))) 0 0 / (((2 : ℚ) : ℝ) : ℂ) -
        FW ([1 / 4, 1 / 4].map (fun q : ℚ => ((q : ℝ) : ℂ)))
          (-((([1 / 4, 1 / 4] : List ℚ).length : ℕ) : ℤ) + 1)
          (Complex.exp ((θ : ℂ) * Complex.I))‖ < ((1 / 100 : ℚ) : ℝ) := by
  obtain ⟨v, h, hv⟩ := ok_of_map_ok validC07_accepted
  exact (validC07_sound _ _ _ _ _ _ v h hv).2.2

/-- a wrong success factor, a non-positive one, and an empty `p` are refused -/
example : (validC07 [1 / 4, 1 / 4] (1 / 100) 1 [355 / 452, -355 / 452] 12 10).map (·.ok)
      = .ok false ∧
    (validC07 [1 / 4, 1 / 4] (1 / 100) 0 [355 / 452, -355 / 452] 12 10).map
      (fun v => (v.ok, v.stage)) = .ok (false, 0) ∧
    (validC07 [] (1 / 100) 1 [] 12 10).map (fun v => (v.ok, v.stage)) = .ok (false, 0) := by
  decide +kernel

end QSP.C07
