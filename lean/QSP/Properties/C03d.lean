/-
  Property C03d — the bridge from the feasibility polynomial to the root finder's specification.

  With `A(z) = Σ_j F_j z^j` (degree `n ≥ 1`, `F_0 ≠ 0`, `F_n ≠ 0`) the polynomial handed to
  `np.roots` is `p = z^n (1 - F F~) = X^n - A · A.reverse` in `z = w²` (`RootSpec.feasPoly A n`).
  Proved, for EVERY complex polynomial `A` of degree `n` with non-zero constant term:
  (i)  `p.natDegree = 2n`, `p.coeff 0 = -(A_0 · A_n) ≠ 0`;
  (ii) `p.reverse = p` (coefficient symmetry `k ↔ 2n - k`);
  (iii) if `A(1/z) = conj A(z)` on the unit circle (true for REAL coefficients) then there
       `p(z) = z^n (1 - |A(z)|²)`, hence no root on the circle when `|A| < 1` there (true when the
       1-norm of the coefficients is `< 1`);
  and the conclusion of `C03c.root_spec_satisfiable` for `p`: with the two facts of (iii) as
  hypotheses on `A` (`feasible_root_spec_partial`), and without them for `A = Σ F_j X^j`
  (`RootSpec.polyL F`), `F` any real list of length `n + 1` with 1-norm `< 1` and non-zero extreme
  coefficients (`feasible_root_spec`); there the two facts are list inductions (`polyL_inv`,
  `polyL_norm`).
  Proofs: `QSP/Proofs/RootSpec.lean`.
-/
import QSP.Proofs.RootSpec
open Polynomial
namespace QSP.C03d
open QSP RootSpec

/-- (i) degree -/
theorem feas_natDegree (A : ℂ[X]) (n : ℕ) (hn : 1 ≤ n) (hd : A.natDegree = n) (h0 : A.coeff 0 ≠ 0) :
    (feasPoly A n).natDegree = 2 * n := RootSpec.feas_natDegree A n hn hd h0

-- `hd` is part of the stated property but not needed for it
set_option linter.unusedVariables false in
/-- (i) constant term `-(A_0 A_n) ≠ 0` -/
theorem feas_coeff_zero (A : ℂ[X]) (n : ℕ) (hn : 1 ≤ n) (hd : A.natDegree = n) (h0 : A.coeff 0 ≠ 0) :
    (feasPoly A n).coeff 0 = -(A.coeff 0 * A.leadingCoeff) ∧ (feasPoly A n).coeff 0 ≠ 0 :=
  ⟨RootSpec.feas_coeff_zero A n hn, RootSpec.feas_coeff_zero_ne A n hn h0⟩

/-- (ii) self-reciprocity -/
theorem feas_reverse (A : ℂ[X]) (n : ℕ) (hn : 1 ≤ n) (hd : A.natDegree = n) (h0 : A.coeff 0 ≠ 0) :
    (feasPoly A n).reverse = feasPoly A n := RootSpec.feas_reverse A n hn hd h0

-- `hn` and `h0` are part of the stated property but not needed for it
set_option linter.unusedVariables false in
/-- (iii) the value on the unit circle -/
theorem feas_eval (A : ℂ[X]) (n : ℕ) (hn : 1 ≤ n) (hd : A.natDegree = n) (h0 : A.coeff 0 ≠ 0)
    (hinv : ∀ z : ℂ, ‖z‖ = 1 → A.eval z⁻¹ = (starRingEnd ℂ) (A.eval z)) (z : ℂ) (hz : ‖z‖ = 1) :
    (feasPoly A n).eval z = z ^ n * (1 - ((‖A.eval z‖ ^ 2 : ℝ) : ℂ)) :=
  RootSpec.feas_eval A n hd hinv z hz

/-- the specification of the root finder is satisfiable for `p = z^n (1 - F F~)`; PARTIAL: `hinv`
    (real coefficients) and `hsup` (1-norm `< 1`) are hypotheses on `A`, not derived from a list
    (`feasible_root_spec` below derives them) -/
theorem feasible_root_spec_partial (A : ℂ[X]) (n : ℕ) (hn : 1 ≤ n) (hd : A.natDegree = n)
    (h0 : A.coeff 0 ≠ 0)
    (hinv : ∀ z : ℂ, ‖z‖ = 1 → A.eval z⁻¹ = (starRingEnd ℂ) (A.eval z))
    (hsup : ∀ z : ℂ, ‖z‖ = 1 → ‖A.eval z‖ < 1) :
    ∃ S : List ℂ, S.length = n ∧ (∀ s ∈ S, s ≠ 0 ∧ ‖s‖ < 1) ∧
      feasPoly A n = C (feasPoly A n).leadingCoeff * recipProd S :=
  RootSpec.feas_root_spec A n hn hd h0 hinv hsup

/-! ### non-vacuity: `A = 1/4 + 1/2 X` (`F = [1/4, 1/2]`, `n = 1`, 1-norm `3/4`) -/

example : ∃ S : List ℂ, S.length = 1 ∧ (∀ s ∈ S, s ≠ 0 ∧ ‖s‖ < 1) ∧
    feasPoly (C (1/4) + C (1/2) * X) 1
      = C (feasPoly (C (1/4) + C (1/2) * X) 1).leadingCoeff * recipProd S := by
  -- the polynomial is `polyL [1/4, 1/2]`: `RootSpec.feasible_root_spec` (stated below for lists)
  -- derives `hinv` and `hsup` for it
  have e : polyL [1/4, 1/2] = C (1/4) + C (1/2) * X := by
    simp only [polyL, mul_zero, add_zero, Complex.ofReal_div, Complex.ofReal_one,
      Complex.ofReal_ofNat]
    rw [mul_comm]
  rw [← e]
  exact RootSpec.feasible_root_spec [1/4, 1/2] 1 rfl le_rfl (by norm_num [l1P, abs_of_pos])
    (by simp) (by norm_num) (by norm_num)

/-! ### the list level: no hypotheses left

`RootSpec.polyL F = Σ_j F_j X^j` (list recursion), `RootSpec.l1P F = Σ_j |F_j|`. -/

/-- real coefficients: `A(1/z) = conj A(z)` on the unit circle -/
theorem polyL_inv (F : List ℝ) (z : ℂ) (hz : ‖z‖ = 1) :
    (polyL F).eval z⁻¹ = (starRingEnd ℂ) ((polyL F).eval z) := RootSpec.polyL_inv F z hz

/-- `|A(z)| ≤ ‖F‖₁` on the unit circle -/
theorem polyL_norm (F : List ℝ) (z : ℂ) (hz : ‖z‖ = 1) : ‖(polyL F).eval z‖ ≤ l1P F :=
  RootSpec.polyL_norm F z hz

/-- constant term and degree -/
theorem polyL_coeff_zero (c : ℝ) (cs : List ℝ) : (polyL (c :: cs)).coeff 0 = (c : ℂ) :=
  RootSpec.polyL_coeff_zero c cs

theorem polyL_natDegree (F : List ℝ) (hne : F ≠ []) (h : F.getLast hne ≠ 0) :
    polyL F ≠ 0 ∧ (polyL F).natDegree = F.length - 1 := RootSpec.polyL_natDegree F hne h

/-- the root finder's specification is satisfiable for EVERY real list `F` of length `n + 1 ≥ 2`
    with 1-norm `< 1` and non-zero extreme coefficients -/
theorem feasible_root_spec (F : List ℝ) (n : ℕ) (hlen : F.length = n + 1) (hn : 1 ≤ n)
    (hl1 : l1P F < 1) (hne : F ≠ []) (hh : F.head hne ≠ 0) (hl : F.getLast hne ≠ 0) :
    ∃ S : List ℂ, S.length = n ∧ (∀ s ∈ S, s ≠ 0 ∧ ‖s‖ < 1) ∧
      feasPoly (polyL F) n = C (feasPoly (polyL F) n).leadingCoeff * recipProd S :=
  RootSpec.feasible_root_spec F n hlen hn hl1 hne hh hl

/-- non-vacuity: `F = [1/4, 0, 1/2]`, `n = 2` -/
example : ∃ S : List ℂ, S.length = 2 ∧ (∀ s ∈ S, s ≠ 0 ∧ ‖s‖ < 1) ∧
    feasPoly (polyL [1/4, 0, 1/2]) 2
      = C (feasPoly (polyL [1/4, 0, 1/2]) 2).leadingCoeff * recipProd S :=
  feasible_root_spec [1/4, 0, 1/2] 2 rfl (by norm_num) (by norm_num [l1P, abs_of_pos])
    (by simp) (by norm_num) (by norm_num)

end QSP.C03d
