/-
  Property C15 — with `ensure_bounded=True` the polynomial a generator of `poly.py` returns is
  bounded by its scale on ALL of `[-1, 1]`.  Proved: a rigorous bound
  `max_{x ∈ [-1,1]} |Σ_k c_k T_k(x)| ≤ B` under acceptance by the executable certificate `chebSupLe`,
  and the exact value of the series at rational points by `chebEval` (both in
  `QSP/Model/Validators.lean`); the harness certifies the returned series with the first and decides a
  rejection at an exact witness point with the second.

  The proofs and `chebAt c x = Σ_k c_k T_k(x)` are in `QSP/Proofs/Series.lean`.
-/
import QSP.Proofs.Series
namespace QSP.C15
open QSP

/-- `chebAt` is the Chebyshev series with Mathlib's Chebyshev polynomials -/
theorem chebAt_eq_sum (c : List ℚ) (x : ℝ) :
    chebAt c x = ∑ k ∈ Finset.range c.length,
      ((c.getD k 0 : ℚ) : ℝ) * (Polynomial.Chebyshev.T ℝ (k : ℤ)).eval x :=
  QSP.chebAt_eq_sum c x

/-- an accepted bound holds at EVERY `x ∈ [-1, 1]` -/
theorem chebSupLe_sound (c : List ℚ) (B : ℚ) (depth : ℕ) (h : (chebSupLe c B depth).1 = true) :
    ∀ x : ℝ, x ∈ Set.Icc (-1 : ℝ) 1 → |chebAt c x| ≤ (B : ℝ) :=
  QSP.chebSupLe_sound c B depth h

/-- `chebEval` computes `Σ_k c_k T_k(x)` exactly at rational points -/
theorem chebEval_spec (c : List ℚ) (x : ℚ) :
    ((chebEval c x : ℚ) : ℝ) = ∑ k ∈ Finset.range c.length,
      ((c.getD k 0 : ℚ) : ℝ) * (Polynomial.Chebyshev.T ℝ (k : ℤ)).eval (x : ℝ) :=
  QSP.chebEval_spec c x

/-! ### non-vacuity -/

/-- `T_0/2 + T_1/3 − T_2/4`: 1-norm `13/12`, sup `≤ 1.01` certified with 9 evaluations (so the
    certificate is sharper than the 1-norm); the exact value at `x = 1` is `7/12`, at
    `x = 1/3` it is `29/36 > 0.8`, and the bound `0.8` is refused -/
example : chebSupLe [1 / 2, 1 / 3, -1 / 4] (101 / 100) 20 = (true, 9) ∧
    chebEval [1 / 2, 1 / 3, -1 / 4] 1 = 7 / 12 ∧
    chebEval [1 / 2, 1 / 3, -1 / 4] (1 / 3) = 29 / 36 ∧
    (chebSupLe [1 / 2, 1 / 3, -1 / 4] (8 / 10) 20).1 = false :=
  ⟨chebSupLe_accepted, by decide +kernel⟩

/-- the theorem applies to the accepted run -/
example : ∀ x : ℝ, x ∈ Set.Icc (-1 : ℝ) 1 →
    |chebAt [1 / 2, 1 / 3, -1 / 4] x| ≤ ((101 / 100 : ℚ) : ℝ) :=
  chebSupLe_sound _ _ 20 (congrArg Prod.fst chebSupLe_accepted)

end QSP.C15
