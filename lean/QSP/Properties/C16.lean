/-
  Property C16 — accuracy of the polynomials `PolyCosineTX`, `PolySineTX`, `PolyOneOverX` (`poly.py`)
  generate, certified in exact rationals:
    * cosine / sine:  an accepted `validTrig` certificate bounds
        |Σ_k c_k T_k(x) - scale · cos(τ x)| ≤ ε   (resp. sin)   for EVERY real x ∈ [-1,1];
    * 1/x:  an accepted `validInv` certificate bounds
        |Σ_k c_k T_k(x) / scale - 1/x| ≤ 3 ε      for EVERY real x with 1/κ ≤ |x| ≤ 1;
    * the exact basis arithmetic the certificates rest on (`chebMulX`, `monoToCheb`, the
      Taylor coefficient lists, `(1 - x²)^b`).
  The harness applies the certificates (`QSP/Model/Accuracy.lean`) to the returned coefficients.  Not
  proved: the erf-family clause of the property (a positive multiple of the least-squares Chebyshev
  fit of the documented target), which the harness decides by recomputing the fit independently.

  The definitions used in the statements and the proofs are in `QSP/Proofs/Series.lean`,
  `QSP/Proofs/Trig.lean`, `QSP/Proofs/Accuracy.lean`.

    chebAt c x   = Σ_k c[k] · T_k(x)        (`chebAt_eq_sum`; `T_k` Mathlib's Chebyshev polynomial)
    polyAt a x   = Σ_k a[k] · x^k           (Horner value of a monomial coefficient list)
    expI y n     = Σ_{m<n} (i y)^m / m!     (Taylor partial sum of `exp (i y)`)
-/
import QSP.Proofs.Accuracy
namespace QSP.C16
open QSP

/-- `chebAt` is the Chebyshev series with Mathlib's Chebyshev polynomials -/
theorem chebAt_eq_sum (c : List ℚ) (x : ℝ) :
    chebAt c x = ∑ k ∈ Finset.range c.length,
      ((c.getD k 0 : ℚ) : ℝ) * (Polynomial.Chebyshev.T ℝ (k : ℤ)).eval x :=
  QSP.chebAt_eq_sum c x

/-- **cosine / sine**: an accepted certificate is a bound on all of `[-1,1]` -/
theorem validTrig_sound (isSin : Bool) (τ ε scale : ℚ) (n : ℕ) (c : List ℚ) (depth : ℕ)
    (h : (validTrig isSin τ ε scale n c depth).ok = true) :
    ∀ x : ℝ, x ∈ Set.Icc (-1 : ℝ) 1 →
      |chebAt c x - (scale : ℝ) *
          (if isSin then Real.sin ((τ : ℝ) * x) else Real.cos ((τ : ℝ) * x))| ≤ (ε : ℝ) :=
  QSP.validTrig_sound isSin τ ε scale n c depth h

/-- **1/x**: an accepted certificate is a bound on all of `1/κ ≤ |x| ≤ 1` -/
theorem validInv_sound (κ ε scale : ℚ) (b : ℕ) (c : List ℚ)
    (h : (validInv κ ε scale b c).ok = true) :
    ∀ x : ℝ, 1 / (κ : ℝ) ≤ |x| → |x| ≤ 1 →
      |chebAt c x / (scale : ℝ) - 1 / x| ≤ 3 * (ε : ℝ) :=
  QSP.validInv_sound κ ε scale b c h

/-- monomial → Chebyshev conversion is exact -/
theorem chebAt_monoToCheb (a : List ℚ) (x : ℝ) : chebAt (monoToCheb a) x = polyAt a x :=
  QSP.chebAt_monoToCheb a x

/-- multiplication by `x` in the Chebyshev basis is exact -/
theorem chebAt_chebMulX (c : List ℚ) (x : ℝ) : chebAt (chebMulX c) x = x * chebAt c x :=
  QSP.chebAt_chebMulX c x

/-- sums, differences and scalings of coefficient lists -/
theorem chebAt_addL (a b : List ℚ) (x : ℝ) : chebAt (addL a b) x = chebAt a x + chebAt b x :=
  QSP.chebAt_addL a b x

theorem chebAt_subL (a b : List ℚ) (x : ℝ) : chebAt (subL a b) x = chebAt a x - chebAt b x :=
  QSP.chebAt_subL a b x

theorem chebAt_map_mul (s : ℚ) (c : List ℚ) (x : ℝ) :
    chebAt (c.map (s * ·)) x = (s : ℝ) * chebAt c x := wsum_map_mul _ s c 0

theorem chebAt_map_div (s : ℚ) (c : List ℚ) (x : ℝ) :
    chebAt (c.map (· / s)) x = chebAt c x / (s : ℝ) := QSP.chebAt_map_div s c x

/-- the coefficient 1-norm bounds the series on `[-1,1]` -/
theorem abs_chebAt_le_l1 (c : List ℚ) (x : ℝ) (hx : x ∈ Set.Icc (-1 : ℝ) 1) :
    |chebAt c x| ≤ ((l1 c : ℚ) : ℝ) := QSP.abs_chebAt_le_l1 c x hx

/-- the Taylor coefficient lists are the real / imaginary parts of the partial sums of
    `exp (i τ x)` -/
theorem polyAt_cosTaylor (τ : ℚ) (n : ℕ) (x : ℝ) :
    polyAt (cosTaylor τ n) x = (expI ((τ : ℝ) * x) n).re := QSP.polyAt_cosTaylor τ n x

theorem polyAt_sinTaylor (τ : ℚ) (n : ℕ) (x : ℝ) :
    polyAt (sinTaylor τ n) x = (expI ((τ : ℝ) * x) n).im := QSP.polyAt_sinTaylor τ n x

/-- `(1 - x²)^b` in the Chebyshev basis, and the rational power -/
theorem chebAt_oneMinusX2Pow (b : ℕ) (x : ℝ) : chebAt (oneMinusX2Pow b) x = (1 - x ^ 2) ^ b :=
  QSP.chebAt_oneMinusX2Pow b x

theorem qpow_cast (q : ℚ) (n : ℕ) : ((qpow q n : ℚ) : ℝ) = (q : ℝ) ^ n := QSP.qpow_cast q n

/-! ### non-vacuity -/

/-- evaluated once by the kernel, for the cosine examples below -/
theorem validTrig_accepted :
    (validTrig false 1 (1 / 1000) 1 12 (monoToCheb (cosTaylor 1 12)) 5).ok = true := by
  decide +kernel

/-- the 12-term Taylor polynomial of `cos x` in the Chebyshev basis is accepted at `1e-3`
    (stage 1, the coefficient 1-norm) … -/
example : (validTrig false 1 (1 / 1000) 1 12 (monoToCheb (cosTaylor 1 12)) 5).ok = true :=
  validTrig_accepted

/-- … so it is within `1e-3` of `cos` on all of `[-1,1]` -/
example : ∀ x : ℝ, x ∈ Set.Icc (-1 : ℝ) 1 →
    |chebAt (monoToCheb (cosTaylor 1 12)) x - ((1 : ℚ) : ℝ) * Real.cos (((1 : ℚ) : ℝ) * x)| ≤
      ((1 / 1000 : ℚ) : ℝ) :=
  validTrig_sound false 1 (1 / 1000) 1 12 _ 5 validTrig_accepted

/-- sine, `τ = 2`, `scale = 1/2`, 16 terms -/
example : (validTrig true 2 (1 / 1000) (1 / 2) 16
    (monoToCheb ((sinTaylor 2 16).map ((1 / 2 : ℚ) * ·))) 8).ok = true := by
  decide +kernel

/-- a perturbed series whose 1-norm bound exceeds the budget is still accepted, by the
    sup-norm certificate (stage 2) -/
example : (validTrig false 1 (1 / 1000) 1 12
    (addL (monoToCheb (cosTaylor 1 12)) [0, 1 / 1800, 0, -1 / 1800]) 8).ok = true ∧
    (validTrig false 1 (1 / 1000) 1 12
    (addL (monoToCheb (cosTaylor 1 12)) [0, 1 / 1800, 0, -1 / 1800]) 8).stage = 2 := by
  decide +kernel

/-- a series that is off by `2e-3` is refused; so is a term count that violates `2|τ| ≤ n+1` -/
example : (validTrig false 1 (1 / 1000) 1 12
    (addL (monoToCheb (cosTaylor 1 12)) [1 / 500]) 8).ok = false ∧
    (validTrig false 10 (1 / 1000) 1 12 (monoToCheb (cosTaylor 10 12)) 5).ok = false := by
  decide +kernel

/-- evaluated once by the kernel, for the `1/x` examples below -/
theorem validInv_accepted :
    (validInv (3 / 2) (3 / 10) 1 3 (monoToCheb [0, 3, 0, -3, 0, 1])).ok = true := by decide +kernel

/-- `(1 - (1 - x²)³)/x = 3x - 3x³ + x⁵` is accepted for `κ = 3/2`, `3ε = 9/10`
    (the bound is `κ (1 - 1/κ²)³ = 125/486`) … -/
example : monoToCheb [0, 3, 0, -3, 0, 1] = [0, 11 / 8, 0, -7 / 16, 0, 1 / 16] ∧
    (validInv (3 / 2) (3 / 10) 1 3 (monoToCheb [0, 3, 0, -3, 0, 1])).ok = true ∧
    (validInv (3 / 2) (3 / 10) 1 3 (monoToCheb [0, 3, 0, -3, 0, 1])).bound = 125 / 486 :=
  ⟨by decide +kernel, validInv_accepted, by decide +kernel⟩

/-- … so it is within `9/10` of `1/x` on `2/3 ≤ |x| ≤ 1` -/
example : ∀ x : ℝ, 1 / ((3 / 2 : ℚ) : ℝ) ≤ |x| → |x| ≤ 1 →
    |chebAt (monoToCheb [0, 3, 0, -3, 0, 1]) x / ((1 : ℚ) : ℝ) - 1 / x| ≤
      3 * ((3 / 10 : ℚ) : ℝ) :=
  validInv_sound (3 / 2) (3 / 10) 1 3 _ validInv_accepted

/-- the same polynomial scaled by 2, with `scale = 2` -/
example : (validInv (3 / 2) (3 / 10) 2 3
    ((monoToCheb [0, 3, 0, -3, 0, 1]).map ((2 : ℚ) * ·))).ok = true := by
  decide +kernel

/-- refused: budget too small; `κ < 1` -/
example : (validInv (3 / 2) (1 / 100) 1 3 (monoToCheb [0, 3, 0, -3, 0, 1])).ok = false ∧
    (validInv (1 / 2) (3 / 10) 1 3 (monoToCheb [0, 3, 0, -3, 0, 1])).ok = false := by
  decide +kernel

end QSP.C16
