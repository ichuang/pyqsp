/-
  Property C06h — the two links closing C06:

  (1) `exact_angseq_on_circle`: every derivation `ExactAngSeq g out` (C06f) over `ℚ` (the type the
      driver computes in; `evMat`, `UcircPairs`, `castP` of C06c / C12b are defined for rational
      model elements) on `g = fromAngles ps`, `ps` unit pairs with non-zero interior cosines, reproduces the
      element at EVERY point `e^{iθ}` of the unit circle: `evMat g θ = UcircPairs θ (out.map castP) = UcircPairs θ (ps.map castP)`.
  (2) the sign gauge in the language of PHASES: `phases_of_signs` — if the pairs
      `(cos ψ_k, sin ψ_k) = ε_k • (cos φ_k, sin φ_k)`, `ε_k = ±1`, `∏ ε_k = 1`, then
      `ψ_k = φ_k + π m_k` with integers `m_k` of EVEN sum; and `phases_unique_up_to_gauge_real` —
      two real phase lists of the same length (interior `cos φ_k ≠ 0`) whose `unitary_from_angles`
      elements (computed exactly over `ℝ`) coincide differ by multiples of π with even total.

  The lemmas behind (2): `QSP/Proofs/GaugePhases.lean`.  `DS.prR φ = (cos φ, sin φ)`.
-/
import QSP.Proofs.GaugePhases
import QSP.Proofs.AnglesEval
import Mathlib.Tactic.NormNum
namespace QSP.C06h
open QSP

/-- (1) the exact recursion's output reproduces the element on the whole unit circle -/
theorem exact_angseq_on_circle {g : LA ℚ} {out : List (ℚ × ℚ)} (h : DS.ExactAngSeq g out) (n : ℕ)
    (ps : List (ℚ × ℚ)) (hlen : ps.length = n + 1) (hunit : ∀ c ∈ ps, c.1 ^ 2 + c.2 ^ 2 = 1)
    (hcos : ∀ c ∈ ps.tail.dropLast, c.1 ≠ 0) (hg : LA.fromAngles ps = .ok g) (θ : ℝ) :
    evMat g θ = UcircPairs θ (out.map castP) ∧
    UcircPairs θ (out.map castP) = UcircPairs θ (ps.map castP) := by
  obtain ⟨ho, -⟩ := DS.exact_sound h hlen hunit (DS.regular_of_ne_zero hcos) hg
  have h1 := fromAngles_eval_pairs out g ho θ
  exact ⟨h1, h1.symm.trans (fromAngles_eval_pairs ps g hg θ)⟩

/-- (2) one pair: a sign `ε = ±1` is a shift by an even / odd multiple of π -/
theorem phase_of_sign {ψ φ ε : ℝ} (hε : ε = 1 ∨ ε = -1)
    (h : DS.prR ψ = (ε * (DS.prR φ).1, ε * (DS.prR φ).2)) :
    ∃ m : ℤ, ψ = φ + Real.pi * m ∧ ((ε = 1 ∧ Even m) ∨ (ε = -1 ∧ Odd m)) :=
  DS.phase_of_sign hε h

/-- (2) lists: signs of product `1` are shifts by multiples of π with even total -/
theorem phases_of_signs (φs ψs es : List ℝ) (h1 : φs.length = ψs.length)
    (h2 : es.length = φs.length) (hes : ∀ e ∈ es, e = 1 ∨ e = -1) (hprod : es.prod = 1)
    (h : ψs.map DS.prR = DS.scalePairs es (φs.map DS.prR)) :
    ∃ ms : List ℤ, ms.length = φs.length ∧
      ψs = List.zipWith (fun φ (m : ℤ) => φ + Real.pi * m) φs ms ∧ Even ms.sum := by
  obtain ⟨ms, l, hz, hp⟩ := DS.phases_of_signs φs ψs es h1 h2 hes h
  refine ⟨ms, l, hz, ?_⟩
  rcases hp with ⟨-, b⟩ | ⟨hq, -⟩
  · exact b
  · rw [hprod] at hq
    norm_num at hq

/-- (2) C06's sentence: two real phase lists building the same element are equal up to shifts by
    multiples of π that cancel overall -/
theorem phases_unique_up_to_gauge_real (φs ψs : List ℝ) (n : ℕ) (hφ : φs.length = n + 1)
    (hψ : ψs.length = n + 1) (hcos : ∀ φ ∈ φs.tail.dropLast, Real.cos φ ≠ 0)
    (h : LA.fromAngles (ψs.map DS.prR) = LA.fromAngles (φs.map DS.prR)) :
    ∃ ms : List ℤ, ms.length = n + 1 ∧
      ψs = List.zipWith (fun φ (m : ℤ) => φ + Real.pi * m) φs ms ∧ Even ms.sum := by
  have hu (l : List ℝ) : ∀ c ∈ l.map DS.prR, DS.UnitPair c :=
    List.forall_mem_map.mpr fun x _ => Real.cos_sq_add_sin_sq x
  have hc' : ∀ c ∈ (φs.map DS.prR).tail.dropLast, c.1 ≠ 0 := by
    rw [← List.map_tail, ← List.map_dropLast]
    exact List.forall_mem_map.mpr hcos
  have hlφ : (φs.map DS.prR).length = n + 1 := by rw [List.length_map, hφ]
  have hlψ : (ψs.map DS.prR).length = n + 1 := by rw [List.length_map, hψ]
  obtain ⟨g, hg, -, -⟩ := DS.fromAngles_spec _ n hlφ
  obtain ⟨es, e1, e2, e3, e4⟩ := DS.fromAngles_gauge (fun _ => mul_self_eq_one_iff.mp) hlφ hlψ
    (hu φs) (hu ψs) (DS.regular_of_ne_zero hc') hg (h.trans hg) rfl rfl
  obtain ⟨ms, l, hz, he⟩ := phases_of_signs φs ψs es (by rw [hφ, hψ]) (by rw [e1, hφ]) e2 e3 e4
  exact ⟨ms, by rw [l, hφ], hz, he⟩

/-! ### non-vacuity -/

/-- (2) the hypotheses are met: shifting the first phase by `π` and the last by `-π` flips two
    pairs (interior phase `0`), the element is unchanged (C06g converse), and the theorem returns the shifts -/
example : ∃ ms : List ℤ, ms.length = 2 + 1 ∧
    [1 + Real.pi, 0, 2 + -Real.pi] = List.zipWith (fun φ (m : ℤ) => φ + Real.pi * m) [1, 0, 2] ms ∧
    Even ms.sum := by
  refine phases_unique_up_to_gauge_real [1, 0, 2] _ 2 rfl rfl ?_ ?_
  · intro φ hφ
    have : φ = 0 := by simpa using hφ
    rw [this, Real.cos_zero]; exact one_ne_zero
  · have h := DS.fromAngles_scale [(-1 : ℝ), 1, -1] ([1, 0, 2].map DS.prR) 2 rfl rfl (by norm_num)
    rw [← h]
    congr 1
    simp [DS.scalePairs, DS.prR, Real.cos_add, Real.sin_add]

/-- (1) applies to the rational rotations `(3/5, 4/5), (5/13, 12/13), (8/17, 15/17)` -/
example (θ : ℝ) : ∃ (g : LA ℚ) (out : List (ℚ × ℚ)), DS.ExactAngSeq g out ∧
    evMat g θ = UcircPairs θ (out.map castP) := by
  have hunit : ∀ c ∈ [((3 : ℚ)/5, (4 : ℚ)/5), (5/13, 12/13), (8/17, 15/17)],
      c.1 ^ 2 + c.2 ^ 2 = 1 := by decide +kernel
  obtain ⟨g, hg, hd⟩ := DS.exact_total 2 _ (by norm_num) rfl hunit
  exact ⟨g, _, hd, (exact_angseq_on_circle hd 2 _ rfl hunit (by decide +kernel) hg θ).1⟩

end QSP.C06h
