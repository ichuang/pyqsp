/-
  Properties C03 / C04 — in exact arithmetic EVERY inside/outside selection of the root pairs
  `{r, 1/r}` gives a completion: `G(z) · z^k G(1/z)` is the same polynomial up to a non-zero
  constant, which the normalisation step absorbs.

  Statements are over an arbitrary field `K` with Mathlib's `Polynomial K`.  Definitions
  (`flipRoots`, `flipConst`, `pairProd`, `Gpoly`, `Grev`) and the proofs other modules use are in
  `QSP/Proofs/Completion.lean`; the rest is proved here.
-/
import QSP.Proofs.Completion
import Mathlib.Tactic.NormNum
import Mathlib.Algebra.Order.Field.Rat
open Polynomial
namespace QSP.C03
open QSP
variable {K : Type} [Field K]

/-- whichever way the selection (`seed`) falls, the product over the selected root pairs
    is the original one times a non-zero constant -/
theorem completion_any_seed (S : List K) (seed : List Bool) (hS : ∀ r ∈ S, r ≠ 0) :
    pairProd (flipRoots S seed) = C (flipConst S seed) * pairProd S ∧ flipConst S seed ≠ 0 :=
  QSP.completion_any_seed S seed hS

/-- the key identity for one pair -/
theorem pair_inv (r : K) (hr : r ≠ 0) :
    (X - C r⁻¹) * (1 - C r⁻¹ * X) = C (r⁻¹ ^ 2) * ((X - C r) * (1 - C r * X)) :=
  QSP.pair_inv r hr

/-- the pair product is `G · Grev` with `G = ∏ (X - r)`, `Grev = ∏ (1 - r X)` … -/
theorem pairProd_eq (S : List K) : pairProd S = Gpoly S * Grev S := QSP.pairProd_eq S

/-- … where `Grev(z) = z^k G(1/z)` -/
theorem Grev_eval (S : List K) (z : K) (hz : z ≠ 0) :
    (Grev S).eval z = z ^ S.length * (Gpoly S).eval z⁻¹ := by
  rw [← reverse_Gpoly, eval_reverse _ hz, Gpoly_natDegree]

/-- for every seed there is a constant making `c · G' · Grev'` the target
    `lead · ∏ (X - r)(1 - r X)` -/
theorem completion_normalised (S : List K) (seed : List Bool) (hS : ∀ r ∈ S, r ≠ 0) (lead : K) :
    C (lead / flipConst S seed) * (Gpoly (flipRoots S seed) * Grev (flipRoots S seed))
      = C lead * pairProd S := QSP.completion_normalised S seed hS lead

/-- any two selections agree up to non-zero constants -/
theorem completion_two_seeds (S : List K) (s1 s2 : List Bool) (hS : ∀ r ∈ S, r ≠ 0) :
    C (flipConst S s2) * pairProd (flipRoots S s1)
      = C (flipConst S s1) * pairProd (flipRoots S s2) := by
  rw [(completion_any_seed S s1 hS).1, (completion_any_seed S s2 hS).1]
  ring

/-- what `flipRoots` selects: `1/r` where the seed bit is set, `r` elsewhere -/
theorem flipRoots_getD (S : List K) (seed : List Bool) (i : ℕ) :
    (flipRoots S seed).getD i 0 = if seed.getD i false then (S.getD i 0)⁻¹ else S.getD i 0 := by
  induction S generalizing seed i with
  | nil => simp [flipRoots]
  | cons r rs ih =>
    rw [flipRoots_cons]
    cases i with
    | zero => cases seed <;> rfl
    | succ i => rw [List.getD_cons_succ, ih, List.getD_cons_succ]; cases seed <;> rfl

theorem flipRoots_length (S : List K) (seed : List Bool) :
    (flipRoots S seed).length = S.length := by
  induction S generalizing seed with
  | nil => rfl
  | cons r rs ih => rw [flipRoots_cons, List.length_cons, ih, List.length_cons]

/-- the selected roots are again non-zero … -/
theorem flipRoots_ne_zero (S : List K) (seed : List Bool) (hS : ∀ r ∈ S, r ≠ 0) :
    ∀ r ∈ flipRoots S seed, r ≠ 0 := QSP.flipRoots_ne_zero S seed hS

/-- … and selecting twice with the same seed restores the roots -/
theorem flipRoots_flipRoots (S : List K) (seed : List Bool) :
    flipRoots (flipRoots S seed) seed = S := by
  induction S generalizing seed with
  | nil => rfl
  | cons r rs ih =>
    rw [flipRoots_cons, flipRoots_cons, ih]
    split_ifs <;> simp

/-! ### non-vacuity -/

/-- a concrete selection over `ℚ` -/
example : flipRoots [(1 / 2 : ℚ), 1 / 3] [true, false] = [2, 1 / 3] ∧
    flipConst [(1 / 2 : ℚ), 1 / 3] [true, false] = 4 ∧
    flipRoots [(1 / 2 : ℚ), 1 / 3] [true, true, true] = [2, 3] ∧
    flipConst [(1 / 2 : ℚ), 1 / 3] [true, true, true] = 36 := by
  decide +kernel

/-- the hypothesis of `completion_any_seed` is met -/
example : ∀ r ∈ [(1 / 2 : ℚ), 1 / 3], r ≠ 0 := by
  intro r hr
  simp only [List.mem_cons, List.not_mem_nil, or_false] at hr
  rcases hr with rfl | rfl <;> norm_num

/-- and the theorem specialises to a concrete identity of polynomials -/
example : pairProd [(2 : ℚ), 1 / 3] = C 4 * pairProd [(1 / 2 : ℚ), 1 / 3] := by
  have h := (completion_any_seed [(1 / 2 : ℚ), 1 / 3] [true, false] (by decide +kernel)).1
  have e1 : flipRoots [(1 / 2 : ℚ), 1 / 3] [true, false] = [2, 1 / 3] := by decide +kernel
  have e2 : flipConst [(1 / 2 : ℚ), 1 / 3] [true, false] = 4 := by decide +kernel
  rw [e1, e2] at h
  exact h

end QSP.C03
