/-
  Property C12, Jacobian clause: the algorithm `gen_poly_jacobian_components(a)` of
  `SymmetricQSPProtocol` (the 3×3 rotation recurrences `L`, `R`, `B`, the contraction with the
  derivative matrix and the factor 2; model `JacImpl.jacImplPt`, `QSP/Model/JacImpl.lean`)
  computes, for every number `n ≥ 1` of reduced phases, both parities, every reduced phase list
  and every signal `a = cos t ∈ [-1, 1]`,

    y[n] = Im <0|U_x(a)|0>                       (the value), and
    y[k] = ∂/∂(red_k) Im <0|U_x(a)|0>, k < n     (the partial derivatives),

  for the inputs the code evaluates: `(cos 2φ_k, sin 2φ_k)` and `(cos t, sin t)`
  (`jacImplPt_signal`).

  Definitions: `respDef` (`QSP/Proofs/RespDef.lean`), `Ucirc` (`QSP/Proofs/BallSound.lean`), `jacD`
  (`QSP/Proofs/Jacobian.lean`; by `C12b.hasDerivAt_layout` the derivative of the full product),
  `layout` (`QSP/Model/SymQSP.lean`).  Proofs: `QSP/Proofs/JacImpl{Core,Sym,}.lean`.

  The assembly of `gen_jacobian()` (`JacImpl.jacAssemble`: mirror / sign extension to `4d` rows,
  real part of the DFT, doubling, `/(2·dd)`, slicing) applied to the rows the recurrences produce
  at the nodes `θ_n = n·π/(2d)` returns, in exact arithmetic and with the exact DFT cosines, the
  Chebyshev coefficients `chebCoefs` of the value and `dCoefs` of every partial derivative
  (`jacAssemble_sampleMat`; `QSP/Proofs/JacCoeff.lean`, `Properties/C12c.lean`).  Proofs:
  `QSP/Proofs/JacAsm.lean`.

  Not covered: floating-point rounding of the recurrences and of the FFT, carried by the
  tolerances of the comparisons with the model (driver ops `sym.jacimpl`, `sym.jacasm`; the radius
  of the rational run is `Properties/C12e.lean`).
-/
import QSP.Proofs.JacImpl
import QSP.Proofs.JacAsm
open Matrix Complex
namespace QSP.C12d
open QSP QSP.JacImpl

/-! ### the representation: symmetric matrices as 3-vectors -/

theorem symM_def (v : V3 ℝ) :
    symM v = !![(v.1 : ℂ) + I * (v.2.2 : ℂ), I * (v.2.1 : ℂ);
                I * (v.2.1 : ℂ), (v.1 : ℂ) - I * (v.2.2 : ℂ)] := rfl

/-- the signal conjugation `W N W` is the matrix `B` of the code -/
theorem conjW_symM (ct st : ℝ) (h : ct * ct + st * st = 1) (v : V3 ℝ) :
    diagC (ct : ℂ) (st : ℂ) * symM v * diagC (ct : ℂ) (st : ℂ)
      = symM (matVec (bMat (ct * ct - st * st) (two * ct * st)) v) :=
  QSP.JacImpl.conjW_symM ct st h v

/-- the phase conjugation `P N P` is the rotation `Rz` by the doubled angle -/
theorem conjP_symM (c s : ℝ) (h : c * c + s * s = 1) (v : V3 ℝ) :
    rotC (c : ℂ) (s : ℂ) * symM v * rotC (c : ℂ) (s : ℂ)
      = symM (matVec (rzMat (dblP (c, s))) v) := QSP.JacImpl.conjP_symM c s h v

/-- its derivative `P' N P + P N P'` is twice the derivative matrix of the code -/
theorem dconjP_symM (c s : ℝ) (v : V3 ℝ) :
    rotC (-(s : ℂ)) (c : ℂ) * symM v * rotC (c : ℂ) (s : ℂ)
        + rotC (c : ℂ) (s : ℂ) * symM v * rotC (-(s : ℂ)) (c : ℂ)
      = symM (dbl3 (matVec (dMat (dblP (c, s))) v)) := QSP.JacImpl.dconjP_symM c s v

/-! ### the lists `L`, `R` of the model, for every commutative ring -/

theorem jacImplCore_getD_lt {R : Type} [CommRing R] (B : Mat3 R) (w0 : V3 R)
    (pairs2 : List (R × R)) (k : ℕ) (hk : k < pairs2.length) :
    (jacImplCore B (matVec B w0) pairs2).getD k 0
      = (vecU B (dbl3 (matVec (dMat (pairs2.getD k (1, 0)))
          (matVec B (vecU B w0 (pairs2.take k))))) (pairs2.drop (k + 1))).2.1 :=
  QSP.JacImpl.jacImplCore_getD_lt B w0 pairs2 k hk

theorem jacImplCore_getD_last {R : Type} [CommRing R] (B : Mat3 R) (w0 : V3 R)
    (pairs2 : List (R × R)) (hn : pairs2 ≠ []) :
    (jacImplCore B (matVec B w0) pairs2).getD pairs2.length 0 = (vecU B w0 pairs2).2.1 :=
  QSP.JacImpl.jacImplCore_getD_last B w0 pairs2 hn

/-! ### the full product and its derivative matrices are symmetric, with the code's 3-vectors -/

theorem pairs2Of_def (red : List ℝ) :
    pairs2Of red = red.map fun x => (Real.cos (2 * x), Real.sin (2 * x)) := rfl

theorem Ucirc_layout_symM (par : ℕ) (hpar : par ≤ 1) (red : List ℝ) (hne : red ≠ []) (θ : ℝ) :
    Ucirc θ (layout (par : ℤ) red) = symM (vecU (bTh θ) (w0 par θ) (pairs2Of red)) :=
  QSP.JacImpl.Ucirc_layout_symM par hpar red hne θ

theorem jacD_symM (par : ℕ) (hpar : par ≤ 1) (red : List ℝ) (θ : ℝ) (j : ℕ)
    (hj : j < red.length) :
    jacD θ par red j
      = symM (vecU (bTh θ) (dbl3 (matVec (dMat ((pairs2Of red).getD j (1, 0)))
          (matVec (bTh θ) (vecU (bTh θ) (w0 par θ) ((pairs2Of red).take j)))))
          ((pairs2Of red).drop (j + 1))) := QSP.JacImpl.jacD_symM par hpar red θ j hj

/-! ### what `gen_poly_jacobian_components` returns -/

/-- the value entry is the response of the definition -/
theorem jacImplPt_value (par : ℕ) (hpar : par ≤ 1) (red : List ℝ) (hne : red ≠ []) (θ : ℝ)
    (hθ : 0 ≤ Real.sin θ) :
    (jacImplPt par (pairs2Of red) (Real.cos θ) (Real.sin θ)).getD red.length 0
      = (respDef .Wx .z (layout (par : ℤ) red) (Real.cos θ)).im := by
  rw [jacImplPt_last_brG par hpar red hne θ, Ucirc_corner_eq_Wx_z θ hθ]

/-- entry `k` is the partial derivative with respect to reduced phase `k` -/
theorem jacImplPt_col (par : ℕ) (hpar : par ≤ 1) (red : List ℝ) (θ : ℝ) (hθ : 0 ≤ Real.sin θ)
    (k : ℕ) (hk : k < red.length) :
    HasDerivAt (fun t => (respDef .Wx .z (layout (par : ℤ) (red.set k t)) (Real.cos θ)).im)
      ((jacImplPt par (pairs2Of red) (Real.cos θ) (Real.sin θ)).getD k 0) (red.getD k 0) := by
  rw [jacImplPt_col_brG par hpar red θ k hk]
  exact hasDerivAt_resp_layout_im θ hθ par red k hk

/-- as the code is called: signal `a ∈ [-1, 1]`, `t = arccos a`, so `(cos t, sin t) = (a, √(1−a²))` -/
theorem jacImplPt_signal (par : ℕ) (hpar : par ≤ 1) (red : List ℝ) (hne : red ≠ []) (a : ℝ)
    (ha : a ∈ Set.Icc (-1 : ℝ) 1) :
    let y := jacImplPt par (pairs2Of red) a (Real.sqrt (1 - a ^ 2))
    y.length = red.length + 1 ∧
    y.getD red.length 0 = (respDef .Wx .z (layout (par : ℤ) red) a).im ∧
    ∀ k < red.length,
      HasDerivAt (fun t => (respDef .Wx .z (layout (par : ℤ) (red.set k t)) a).im)
        (y.getD k 0) (red.getD k 0) := by
  have hθ : 0 ≤ Real.sin (Real.arccos a) :=
    Real.sin_nonneg_of_nonneg_of_le_pi (Real.arccos_nonneg a) (Real.arccos_le_pi a)
  have hc := Real.cos_arccos ha.1 ha.2
  have hs := Real.sin_arccos a
  have h1 := jacImplPt_length par red hne (Real.arccos a)
  have h2 := jacImplPt_value par hpar red hne (Real.arccos a) hθ
  have h3 := fun k hk => jacImplPt_col par hpar red (Real.arccos a) hθ k hk
  rw [hc, hs] at h1 h2 h3
  exact ⟨h1, h2, h3⟩

/-- in terms of the functions whose Chebyshev coefficients C12c speaks about -/
theorem jacImplPt_respIm (par : ℕ) (hpar : par ≤ 1) (red : List ℝ) (hne : red ≠ []) (θ : ℝ) :
    (jacImplPt par (pairs2Of red) (Real.cos θ) (Real.sin θ)).getD red.length 0
      = respIm par red θ := QSP.JacImpl.jacImplPt_last_brG par hpar red hne θ

theorem jacImplPt_dRespIm (par : ℕ) (hpar : par ≤ 1) (red : List ℝ) (θ : ℝ) (k : ℕ)
    (hk : k < red.length) :
    (jacImplPt par (pairs2Of red) (Real.cos θ) (Real.sin θ)).getD k 0 = dRespIm par red k θ :=
  QSP.JacImpl.jacImplPt_dRespIm par hpar red θ k hk

/-! ### the assembly of `gen_jacobian()` -/

theorem asmNode_def (d m : ℕ) : asmNode d m = 2 * Real.pi * (m : ℝ) / ((4 * d : ℕ) : ℝ) := rfl

theorem cosSum_def (par d : ℕ) (a : ℕ → ℝ) (θ : ℝ) :
    cosSum par d a θ = ∑ k ∈ Finset.range d, a k * Real.cos (((2 * k + par : ℕ) : ℝ) * θ) := rfl

/-- after the two mirror statements, row `m < 4d` holds the samples at `θ_m = 2π m/(4d)` -/
theorem extRow_getD (par d : ℕ) (hd : 0 < d) (a : ℕ → ℝ) (M : List (List ℝ)) (c : ℕ)
    (hM : ∀ n ≤ d, (M.getD n []).getD c 0 = cosSum par d a (asmNode d n)) (m : ℕ)
    (hm : m < 4 * d) : (extRow par d M m).getD c 0 = cosSum par d a (asmNode d m) :=
  QSP.JacImpl.extRow_getD par d hd a M c hM m hm

/-- on exact samples of cosine sums of the parity class the assembly returns the coefficients -/
theorem jacAssemble_spec (par d : ℕ) (hpar : par ≤ 1) (hd : 0 < d) (cosTab : List ℝ)
    (hcos : ∀ j < 4 * d, cosTab.getD j 0 = Real.cos (2 * Real.pi * (j : ℝ) / ((4 * d : ℕ) : ℝ)))
    (a : ℕ → ℕ → ℝ) (M : List (List ℝ))
    (hM : ∀ c ≤ d, ∀ n ≤ d, (M.getD n []).getD c 0 = cosSum par d (a c) (asmNode d n)) :
    jacAssemble par d cosTab ((4 * d : ℕ) : ℝ) M
      = ((List.range d).map fun i => a d i,
         (List.range d).map fun i => (List.range d).map fun c => a c i) :=
  QSP.JacImpl.jacAssemble_spec par d hpar hd cosTab hcos a M hM

theorem sampleMat_def (par : ℕ) (red : List ℝ) :
    sampleMat par red = (List.range (red.length + 1)).map fun n =>
      jacImplPt par (pairs2Of red) (Real.cos (asmNode red.length n))
        (Real.sin (asmNode red.length n)) := rfl

/-- `gen_jacobian()` in exact arithmetic: `f[i] = c_{2i+par}` (the Chebyshev coefficients of
    `a ↦ Im <0|U_x(a)|0>`), `df[i][c] = ` coefficient `2i+par` of the partial derivative with
    respect to reduced phase `c` (by `C12c.hasDerivAt_chebCoefs`: `∂ f[i] / ∂ red_c`) -/
theorem jacAssemble_sampleMat (par : ℕ) (hpar : par ≤ 1) (red : List ℝ) (hne : red ≠ [])
    (cosTab : List ℝ)
    (hcos : ∀ j < 4 * red.length,
      cosTab.getD j 0 = Real.cos (2 * Real.pi * (j : ℝ) / ((4 * red.length : ℕ) : ℝ))) :
    jacAssemble par red.length cosTab ((4 * red.length : ℕ) : ℝ) (sampleMat par red)
      = ((List.range red.length).map fun i => (chebCoefs par red).getD i 0,
         (List.range red.length).map fun i =>
           (List.range red.length).map fun c => (dCoefs par red c).getD i 0) :=
  QSP.JacImpl.jacAssemble_sampleMat par hpar red hne cosTab hcos

/-! ### non-vacuity: the model runs on exact rationals -/

example : jacImplPt (R := Rat) 1 [(3 / 5, 4 / 5)] (4 / 5) (3 / 5) = [24 / 25, 16 / 25] := by
  decide +kernel

example : jacImplPt (R := Rat) 0 [(3 / 5, 4 / 5), (5 / 13, 12 / 13)] (4 / 5) (3 / 5)
    = [6 / 125, -438 / 325, 752 / 1625] := by decide +kernel

/-- `d = 1`, parity 1: the rows sampled at `θ = 0, π/2` from `7·cos θ` (derivative column) and
    `3·cos θ` (value column), DFT cosines `1, 0, −1, 0` -/
example : jacAssemble (R := Rat) 1 1 [1, 0, -1, 0] 4 [[7, 3], [0, 0]] = ([3], [[7]]) := by
  decide +kernel

end QSP.C12d
