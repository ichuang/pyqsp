/-
  Property C12, Jacobian clause: the quantitative tie between what the driver computes with the
  model `JacImpl.jacImplPt` at rational inputs (`sym.jacimpl`) and the real quantities.

  * `jacImplPt_map`: the model commutes with ring homomorphisms; the rational run cast to `ℝ` is
    the real model at the cast inputs (`cast_jacImplPt`).
  * `jacImplPt_err`: if every input pair is within `δ` (componentwise) of a pair on the unit
    circle and `(ct, st)` within `δ` of a unit pair, every entry of the list is within
    `2·((1+ε)^{2n} − 1)`, `ε = 8δ + 4δ²`, of the entry at the exact inputs: the executable
    `jacImplErr n δ` (`QSP/Model/JacImplErr.lean`, driver op `sym.jacimplerr`).
  * `rat_value_err`, `rat_col_err`: with `C12d`, the rational entries are within `jacImplErr n δ`
    of `Im <0|U_x(cos θ)|0>` resp. of its partial derivatives.

  Not covered: the rounding of the code's own floating-point operations, carried by the comparison
  tolerance (the harness allows `1e-12·(n+1)` on top of `jacImplErr n 2^-50`).  Proofs:
  `QSP/Proofs/JacImplMap.lean`, `QSP/Proofs/JacImplPert.lean`, `QSP/Proofs/JacImplErr.lean`.
-/
import QSP.Proofs.JacImplErr
import QSP.Properties.C12d
namespace QSP.C12e
open QSP QSP.JacImpl

/-! ### naturality -/

theorem jacImplPt_map {R S : Type} [CommRing R] [CommRing S] (f : R →+* S) (par : ℕ)
    (pairs2 : List (R × R)) (ct st : R) :
    (jacImplPt par pairs2 ct st).map f
      = jacImplPt par (pairs2.map (Prod.map f f)) (f ct) (f st) :=
  QSP.JacImpl.jacImplPt_map f par pairs2 ct st

theorem castP2_def (p : ℚ × ℚ) : castP2 p = ((p.1 : ℝ), (p.2 : ℝ)) := rfl

theorem cast_jacImplPt (par : ℕ) (Pq : List (ℚ × ℚ)) (ctq stq : ℚ) (k : ℕ) :
    (((jacImplPt par Pq ctq stq).getD k 0 : ℚ) : ℝ)
      = (jacImplPt par (Pq.map castP2) (ctq : ℝ) (stq : ℝ)).getD k 0 :=
  QSP.JacImpl.cast_jacImplPt par Pq ctq stq k

/-! ### the perturbation bound -/

theorem jacImplErr_def (n : ℕ) (δ : ℚ) :
    jacImplErr n δ = 2 * ((1 + (8 * δ + 4 * δ * δ)) ^ (2 * n) - 1) := rfl

theorem errR_def (n : ℕ) (δ : ℝ) : errR n δ = 2 * ((1 + (8 * δ + 4 * δ * δ)) ^ (2 * n) - 1) := rfl

theorem errR_cast (n : ℕ) (δ : ℚ) : ((jacImplErr n δ : ℚ) : ℝ) = errR n (δ : ℝ) :=
  QSP.JacImpl.errR_cast n δ

theorem Good_def (δ : ℝ) (q : (ℝ × ℝ) × (ℝ × ℝ)) :
    Good δ q ↔ q.2.1 ^ 2 + q.2.2 ^ 2 = 1 ∧ |q.1.1 - q.2.1| ≤ δ ∧ |q.1.2 - q.2.2| ≤ δ := Iff.rfl

/-- every entry, for every length `n`, both parities -/
theorem jacImplPt_err (par : ℕ) (δ ct st ct0 st0 : ℝ) (hδ : 0 ≤ δ)
    (h0 : ct0 ^ 2 + st0 ^ 2 = 1) (hc : |ct - ct0| ≤ δ) (hs : |st - st0| ≤ δ)
    (P P0 : List (ℝ × ℝ)) (hlen : P.length = P0.length)
    (hq : ∀ q ∈ P.zip P0, Good δ q) (k : ℕ) (hk : k ≤ P.length) :
    |(jacImplPt par P ct st).getD k 0 - (jacImplPt par P0 ct0 st0).getD k 0|
      ≤ errR P.length δ :=
  QSP.JacImpl.jacImplPt_err par δ ct st ct0 st0 hδ h0 hc hs P P0 hlen hq k hk

/-! ### the driver's rational run against the mathematical quantities -/

section
variable (par : ℕ) (hpar : par ≤ 1) (red : List ℝ) (θ : ℝ) (hθ : 0 ≤ Real.sin θ)
  (Pq : List (ℚ × ℚ)) (ctq stq δ : ℚ) (hδ : 0 ≤ δ)
  (hc : |(ctq : ℝ) - Real.cos θ| ≤ (δ : ℝ)) (hs : |(stq : ℝ) - Real.sin θ| ≤ (δ : ℝ))
  (hlen : Pq.length = red.length)
  (hP : ∀ q ∈ (Pq.map castP2).zip (pairs2Of red),
    |q.1.1 - q.2.1| ≤ (δ : ℝ) ∧ |q.1.2 - q.2.2| ≤ (δ : ℝ))
include hpar hθ hδ hc hs hlen hP

/-- the value entry against `Im <0|U_x(cos θ)|0>` -/
theorem rat_value_err (hne : red ≠ []) :
    |(((jacImplPt par Pq ctq stq).getD red.length 0 : ℚ) : ℝ)
        - (respDef .Wx .z (layout (par : ℤ) red) (Real.cos θ)).im|
      ≤ ((jacImplErr red.length δ : ℚ) : ℝ) := by
  rw [← C12d.jacImplPt_value par hpar red hne θ hθ]
  exact jacImplPt_rat_err par red θ Pq ctq stq δ hδ hc hs hlen hP _ le_rfl

/-- entry `k` against the partial derivative with respect to reduced phase `k` -/
theorem rat_col_err (k : ℕ) (hk : k < red.length) :
    ∃ D : ℝ,
      HasDerivAt (fun t => (respDef .Wx .z (layout (par : ℤ) (red.set k t)) (Real.cos θ)).im) D
        (red.getD k 0) ∧
      |(((jacImplPt par Pq ctq stq).getD k 0 : ℚ) : ℝ) - D| ≤ ((jacImplErr red.length δ : ℚ) : ℝ) :=
  ⟨_, C12d.jacImplPt_col par hpar red θ hθ k hk,
    jacImplPt_rat_err par red θ Pq ctq stq δ hδ hc hs hlen hP k hk.le⟩

end

/-! ### non-vacuity -/

/-- `δ = 2^-50`, `n = 60`: below `2·10⁻¹²` -/
example : jacImplErr 60 (1 / 2 ^ 50) < 2 / 10 ^ 12 := by decide +kernel

example : jacImplErr 1 (1 / 100) = 2 * ((1 + (8 / 100 + 4 / 10000)) ^ 2 - 1) := by decide +kernel

end QSP.C12e
