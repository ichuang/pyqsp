/-
  Property C16b — the least-squares Chebyshev fit on the first-kind Chebyshev nodes IS the
  discrete-cosine-transform formula.

  The Python library calls `numpy.polynomial.chebyshev.chebfit(x, y, n)` (a least-squares fit of
  degree `n`) with the nodes `x_j = cos (π (2j+1) / (2N))`, `j = 0..N-1`, `N = cheb_samples` (default 20
  whatever the degree; the theorems are for `n < N`); the checker
  recomputes the coefficients by the closed formula `dctCoef`.  The theorems below justify that:
  `dctCoef N y` satisfies the normal equations, minimises the sum of squared residuals among all
  coefficient vectors of degree `≤ n`, and is the only minimiser.

  Only property theorems (and their non-vacuity examples) live here; the definitions used in the
  statements and all helper lemmas are in `QSP/Proofs/LsqDct.lean`:

    θ N j          = π (2j+1) / (2N)                                   (node angle, `x_j = cos (θ N j)`)
    dctCoef N y k  = (if k = 0 then 1 else 2) / N · Σ_{j<N} y_j cos (k θ N j)
    fitVal N c n j = Σ_{k≤n} c_k cos (k θ N j)  =  Σ_{k≤n} c_k T_k(x_j)  (`fitVal_eq_chebyshev`)
    resid N y c n  = Σ_{j<N} (fitVal N c n j - y_j)^2
    gramW N k      = if k = 0 then N else N/2
-/
import QSP.Proofs.LsqDct
namespace QSP.C16b
open QSP Finset

/-- meaning of `fitVal`: the value of `Σ_{k≤n} c_k T_k` (Mathlib's Chebyshev polynomials) at the
node `x_j = cos (θ N j)` -/
theorem fitVal_eq_chebyshev (N : ℕ) (c : ℕ → ℝ) (n j : ℕ) :
    fitVal N c n j = ∑ k ∈ range (n + 1),
      c k * (Polynomial.Chebyshev.T ℝ (k : ℤ)).eval (Real.cos (θ N j)) :=
  QSP.fitVal_eq_chebyshev N c n j

/-- **(1)** the cosines of a non-zero frequency `m < 2N` sum to zero over the nodes -/
theorem sum_cos_nodes (N m : ℕ) (hN : 0 < N) (hm : 0 < m) (hm2 : m < 2 * N) :
    ∑ j ∈ range N, Real.cos ((m : ℝ) * θ N j) = 0 :=
  QSP.sum_cos_nodes N m hN hm hm2

/-- **(2)** discrete orthogonality: the Gram matrix of `T_0 .. T_{N-1}` on the nodes is
`diag (N, N/2, .., N/2)` -/
theorem gram (N k l : ℕ) (hN : 0 < N) (hk : k < N) (hl : l < N) :
    ∑ j ∈ range N, Real.cos ((k : ℝ) * θ N j) * Real.cos ((l : ℝ) * θ N j)
      = if k = l then (if k = 0 then (N : ℝ) else (N : ℝ) / 2) else 0 :=
  QSP.gram N k l hN hk hl

/-- **(3)** normal equations: the residual of the DCT coefficients is orthogonal to every
`T_k`, `k ≤ n`, on the nodes -/
theorem normal_eqs (N n : ℕ) (hn : n < N) (y : ℕ → ℝ) :
    ∀ k ≤ n, ∑ j ∈ range N,
      (fitVal N (dctCoef N y) n j - y j) * Real.cos ((k : ℝ) * θ N j) = 0 :=
  QSP.normal_eqs N n hn y

/-- **(4a)** Pythagoras: the residual of any coefficient vector `c` is the residual of the DCT
coefficients plus the squared distance of the two fits on the nodes -/
theorem resid_pythagoras (N n : ℕ) (hn : n < N) (y c : ℕ → ℝ) :
    resid N y c n = resid N y (dctCoef N y) n
      + ∑ j ∈ range N, (fitVal N c n j - fitVal N (dctCoef N y) n j) ^ 2 :=
  QSP.resid_pythagoras N n hn y c

/-- **(4b)** optimality: the DCT coefficients minimise the sum of squared residuals -/
theorem resid_optimal (N n : ℕ) (hn : n < N) (y c : ℕ → ℝ) :
    resid N y (dctCoef N y) n ≤ resid N y c n :=
  QSP.resid_optimal N n hn y c

/-- **(5a)** the excess residual in coefficient space (weights `N`, `N/2, ..` are positive) -/
theorem resid_excess (N n : ℕ) (hn : n < N) (y c : ℕ → ℝ) :
    resid N y c n = resid N y (dctCoef N y) n
      + ∑ k ∈ range (n + 1), gramW N k * (c k - dctCoef N y k) ^ 2 :=
  QSP.resid_excess N n hn y c

/-- **(5b)** uniqueness: a coefficient vector that attains the minimal residual agrees with the
DCT coefficients in every degree `≤ n` -/
theorem resid_unique (N n : ℕ) (hn : n < N) (y c : ℕ → ℝ)
    (h : resid N y c n = resid N y (dctCoef N y) n) :
    ∀ k ≤ n, c k = dctCoef N y k :=
  QSP.resid_unique N n hn y c h

/-- **(6a)** samples symmetric under `x ↦ -x` (node `j ↦ N-1-j`) have no odd coefficients
(for every odd `k`, not only `k < N`) -/
theorem dctCoef_even (N : ℕ) (y : ℕ → ℝ) (hy : ∀ j < N, y (N - 1 - j) = y j)
    (k : ℕ) (hk : Odd k) : dctCoef N y k = 0 :=
  QSP.dctCoef_even N y hy k hk

/-- **(6b)** antisymmetric samples have no even coefficients (for every even `k`) -/
theorem dctCoef_odd (N : ℕ) (y : ℕ → ℝ) (hy : ∀ j < N, y (N - 1 - j) = - y j)
    (k : ℕ) (hk : Even k) : dctCoef N y k = 0 :=
  QSP.dctCoef_odd N y hy k hk

/-! ### non-vacuity -/

/-- the two nodes for `N = 2` are `cos (π/4)` and `cos (3π/4)` -/
example : θ 2 0 = Real.pi / 4 ∧ θ 2 1 = 3 * Real.pi / 4 := by
  constructor <;> (unfold θ; push_cast; ring)

/-- (1) at `N = 2`, `m = 1`: `cos (π/4) + cos (3π/4) = 0` -/
example : Real.cos (θ 2 0) + Real.cos (θ 2 1) = 0 := by
  have h := sum_cos_nodes 2 1 Nat.two_pos Nat.one_pos (by decide)
  rwa [sum_range_succ, sum_range_one, Nat.cast_one, one_mul, one_mul] at h

/-- (2) at `N = 2`, `k = l = 1`: `cos² (π/4) + cos² (3π/4) = 1` -/
example : Real.cos (θ 2 0) * Real.cos (θ 2 0) + Real.cos (θ 2 1) * Real.cos (θ 2 1) = 1 := by
  have h := gram 2 1 1 (by norm_num) (by norm_num) (by norm_num)
  simpa [sum_range_succ] using h

/-- `N = 1`, `n = 0`: the fit is the single sample (the mean), and it is exact -/
example (y : ℕ → ℝ) : dctCoef 1 y 0 = y 0 ∧ resid 1 y (dctCoef 1 y) 0 = 0 := by
  simp [dctCoef, resid, fitVal]

/-- the hypotheses of (4)–(5) are satisfiable and the conclusion is not trivial: at `N = 2`,
`n = 0` the best constant is the mean of the two samples -/
example (y : ℕ → ℝ) : dctCoef 2 y 0 = (y 0 + y 1) / 2 := by
  simp [dctCoef, sum_range_succ]; ring

end QSP.C16b
