/-
  Property C11 — the basis conversions are exact:
    * `chebBasis` lists the monomial coefficients of Mathlib's Chebyshev polynomials
      `T_n` / `U_n`;
    * `cheb2poly` / `poly2cheb` (`completion.py`, kinds T and U) convert between monomial and
      Chebyshev coefficients of the same polynomial, keep the length, and are mutually inverse;
    * `poly2laurent` (`angle_sequence.py`) and `polyToLaurentForm`
      (`LPoly.PolynomialToLaurentForm`) return the Laurent polynomial `p((w + 1/w)/2)` when `p` has
      definite parity — for `poly2laurent` under the hypothesis that the Chebyshev coefficients it
      drops are exactly 0 (it cuts at an absolute threshold, see the example on `[0, 1/2]`) — and
      refuse mixed parity (`poly2laurent`: both parities above its threshold).

  Only property theorems (and their non-vacuity examples) live here.  The definitions used in the
  statements and all helper lemmas are in `QSP/Proofs/Cheb.lean` (`denL`, `den`:
  `QSP/Proofs/Den.lean`):

    toPoly l          = sum_i l[i] X^i                                  (a `Polynomial K`)
    chebP K kindU n   = if kindU then Chebyshev.U K n else Chebyshev.T K n
    chebSum kindU cs  = sum_i cs[i] * chebP K kindU i                   (`chebSum_eq_sum`)
    cosW              = C (1/2) * (T 1 + T (-1))  = (w + 1/w)/2         (a Laurent polynomial)
    denL l d          = sum_i C l[i] * T (d + 2 i)

  Statements about `chebBasis` / `cheb2poly` are for an arbitrary commutative ring
  (`chebBasis_lead`: a domain in which `2 ≠ 0`); those that involve the division in `poly2cheb`
  are for a field in which `2 ≠ 0`, in particular every field of characteristic zero.
-/
import QSP.Proofs.Cheb
open LaurentPolynomial
namespace QSP.C11
open QSP

section ring
variable {K : Type} [CommRing K]

/-- `chebBasis false n` is the coefficient list of the Chebyshev polynomial `T_n` -/
theorem chebBasis_T (n : ℕ) :
    toPoly (chebBasis false n : List K) = Polynomial.Chebyshev.T K n := QSP.chebBasis_T n

/-- `chebBasis true n` is the coefficient list of the Chebyshev polynomial `U_n` -/
theorem chebBasis_U (n : ℕ) :
    toPoly (chebBasis true n : List K) = Polynomial.Chebyshev.U K n := toPoly_chebBasis true n

theorem chebBasis_length (kindU : Bool) (n : ℕ) :
    (chebBasis kindU n : List K).length = n + 1 := QSP.chebBasis_length kindU n

/-- the last entry (the divisor used by `poly2cheb`) is the leading coefficient and is not 0 -/
theorem chebBasis_lead [IsDomain K] [NeZero (2 : K)] (kindU : Bool) (n : ℕ) (d : K) :
    (chebBasis kindU n : List K).getLastD d = (if kindU then 2 ^ n else 2 ^ (n - 1)) ∧
    (chebBasis kindU n : List K).getLastD d ≠ 0 := by
  rw [chebBasis_getLastD]
  exact ⟨rfl, chebLead_ne_zero kindU n⟩

/-- `cheb2poly` returns the monomial coefficients of `sum_k cs[k] P_k` … -/
theorem cheb2poly_spec (kindU : Bool) (cs : List K) :
    toPoly (cheb2poly kindU cs) =
      (List.range cs.length).foldr (fun k acc => Polynomial.C (cs.getD k 0) *
        (if kindU then Polynomial.Chebyshev.U K k else Polynomial.Chebyshev.T K k) + acc) 0 := by
  rw [toPoly_cheb2poly, QSP.chebSum_eq_sum, foldr_range_eq_sum]
  rfl

/-- … the same with the sum written as `chebSum` / as a `Finset` sum … -/
theorem cheb2poly_spec' (kindU : Bool) (cs : List K) :
    toPoly (cheb2poly kindU cs) = chebSum kindU cs := toPoly_cheb2poly kindU cs

theorem chebSum_eq_sum (kindU : Bool) (cs : List K) :
    chebSum kindU cs =
      ∑ i ∈ Finset.range cs.length, Polynomial.C (cs.getD i 0) *
        (if kindU then Polynomial.Chebyshev.U K i else Polynomial.Chebyshev.T K i) :=
  QSP.chebSum_eq_sum kindU cs

/-- … in a list of the same length -/
theorem cheb2poly_length (kindU : Bool) (cs : List K) :
    (cheb2poly kindU cs).length = cs.length := QSP.cheb2poly_length kindU cs

end ring

section field
variable {K : Type} [Field K] [NeZero (2 : K)]

/-- `poly2cheb` returns Chebyshev coefficients of the polynomial with monomial coefficients
    `ps` … -/
theorem poly2cheb_spec (kindU : Bool) (ps : List K) :
    chebSum kindU (poly2cheb kindU ps) = toPoly ps := QSP.poly2cheb_spec kindU ps

/-- … in a list of the same length -/
theorem poly2cheb_length (kindU : Bool) (ps : List K) :
    (poly2cheb kindU ps).length = ps.length := QSP.poly2cheb_length kindU ps

/-- round trips, for every list (any length, also empty, also with trailing zeros) -/
theorem poly2cheb_cheb2poly (kindU : Bool) (cs : List K) :
    poly2cheb kindU (cheb2poly kindU cs) = cs := QSP.poly2cheb_cheb2poly kindU cs

theorem cheb2poly_poly2cheb (kindU : Bool) (ps : List K) :
    cheb2poly kindU (poly2cheb kindU ps) = ps := by
  apply toPoly_inj
  · rw [cheb2poly_length, poly2cheb_length]
  · rw [cheb2poly_spec', poly2cheb_spec]

/-- Chebyshev coefficient lists of equal length are determined by the polynomial -/
theorem chebSum_inj (kindU : Bool) {a b : List K} (hl : a.length = b.length)
    (h : chebSum kindU a = chebSum kindU b) : a = b := QSP.chebSum_inj kindU hl h

/-- `T_k((w + 1/w)/2) = (w^k + w^(-k))/2` -/
theorem aeval_cosW_T (k : ℕ) :
    Polynomial.aeval (cosW : K[T;T⁻¹]) (Polynomial.Chebyshev.T K k) =
      C (1 / 2) * (T k + T (-(k : ℤ))) := QSP.aeval_cosW_T k

end field

/-- meaning of `evens` / `odds` in the hypotheses below: the entries at even / odd indices -/
theorem evens_odds_getD {α : Type} (l : List α) (d : α) (j : ℕ) :
    (evens l).getD j d = l.getD (2 * j) d ∧ (odds l).getD j d = l.getD (2 * j + 1) d :=
  QSP.evens_odds_getD l d j

/-- `poly2laurent`: the returned vector `l`, placed on the powers `-d, -d+2, …, d`
    (`d = l.length - 1`), is exactly `p((w + 1/w)/2)` when the Chebyshev coefficients of one
    parity are exactly zero.

    In the odd case the odd coefficients must also pass the detection threshold: when none does,
    the routine takes its "even" branch and drops them, however they compare with the even ones
    (`poly2laurent 1 [0, 1/2] = .ok [0]`, example below), so without this conjunct the statement
    is false. -/
theorem den_poly2laurent (thr : ℚ) (ps l : List ℚ) (h : poly2laurent thr ps = .ok l)
    (hpar : (∀ c ∈ odds (poly2cheb false ps), c = 0) ∨
      ((∀ c ∈ evens (poly2cheb false ps), c = 0) ∧ thr < maxAbs (odds (poly2cheb false ps))))
    (hthr : 0 ≤ thr) :
    denL l (-(l.length : ℤ) + 1) = Polynomial.aeval (cosW : ℚ[T;T⁻¹]) (toPoly ps) :=
  QSP.den_poly2laurent thr ps l h hpar hthr

/-- the same in its weakest form (any threshold): the coefficients that the routine drops —
    the even ones when the odd ones pass the threshold, the odd ones otherwise — are zero -/
theorem den_poly2laurent_of_dropped (thr : ℚ) (ps l : List ℚ)
    (h : poly2laurent thr ps = .ok l)
    (hdrop : ∀ c ∈ (if thr < maxAbs (odds (poly2cheb false ps))
      then evens (poly2cheb false ps) else odds (poly2cheb false ps)), c = 0) :
    denL l (-(l.length : ℤ) + 1) = Polynomial.aeval (cosW : ℚ[T;T⁻¹]) (toPoly ps) :=
  QSP.den_poly2laurent_of_dropped thr ps l h hdrop

/-- the converter as the code runs it: NumPy's `poly2cheb` first trims trailing zero
    coefficients (`trimZeros`), so the result lives on powers `-d..d` with `d` the true degree -/
theorem den_poly2laurentNp (thr : ℚ) (ps l : List ℚ) (h : poly2laurentNp thr ps = .ok l)
    (hdrop : ∀ c ∈ (if thr < maxAbs (odds (poly2cheb false (trimZeros ps)))
      then evens (poly2cheb false (trimZeros ps)) else odds (poly2cheb false (trimZeros ps))), c = 0) :
    denL l (-(l.length : ℤ) + 1) = Polynomial.aeval (cosW : ℚ[T;T⁻¹]) (toPoly ps) := by
  rw [← toPoly_trimZeros ps]
  exact den_poly2laurent_of_dropped thr (trimZeros ps) l h hdrop

example : poly2laurentNp (1 / 100000000) [0, 0, 0, 1, 0, 0] = .ok [1 / 8, 3 / 8, 3 / 8, 1 / 8] := by
  decide +kernel

/-- both parities above the threshold: refused -/
theorem poly2laurent_refuses (thr : ℚ) (ps : List ℚ)
    (h1 : maxAbs (evens (poly2cheb false ps)) > thr)
    (h2 : maxAbs (odds (poly2cheb false ps)) > thr) :
    poly2laurent thr ps = .error .parity := QSP.poly2laurent_refuses thr ps h1 h2

/-- `polyToLaurentForm`: whenever it returns, the result is `p((w + 1/w)/2)` -/
theorem den_polyToLaurentForm (ps : List ℚ) (p : LP ℚ) (h : polyToLaurentForm ps = .ok p) :
    den p = Polynomial.aeval (cosW : ℚ[T;T⁻¹]) (toPoly ps) ∧ p.WF :=
  QSP.den_polyToLaurentForm ps p h

/-- `polyToLaurentForm` returns when all nonzero monomial coefficients sit at indices of one
    parity `π` … -/
theorem polyToLaurentForm_returns (ps : List ℚ) (π : ℕ)
    (h : ∀ i, ps.getD i 0 ≠ 0 → i % 2 = π) : ∃ p, polyToLaurentForm ps = .ok p :=
  QSP.polyToLaurentForm_returns ps π h

/-- … and returns the parity error (raised by `LP.add`) as soon as nonzero coefficients occur
    at an even and at an odd index: a returned value would have the parity class of both -/
theorem polyToLaurentForm_refuses (ps : List ℚ) (i j : ℕ) (hi : ps.getD i 0 ≠ 0)
    (hj : ps.getD j 0 ≠ 0) (hij : (i + j) % 2 = 1) :
    polyToLaurentForm ps = .error .parity := by
  cases h : polyToLaurentForm ps with
  | error e => rw [go_error ps 0 _ _ pw_zero den_zero.2 e h]
  | ok p =>
    obtain ⟨-, -, h2⟩ := go_ok ps 0 _ _ p pw_zero den_zero.2 h
    have := (h2 i hi).symm.trans (h2 j hj)
    simp only [cls] at this
    omega

/-- the two converters denote the same Laurent polynomial whenever both return and the
    parity is definite -/
theorem converters_agree (thr : ℚ) (ps l : List ℚ) (p : LP ℚ)
    (h1 : poly2laurent thr ps = .ok l) (h2 : polyToLaurentForm ps = .ok p)
    (hpar : (∀ c ∈ odds (poly2cheb false ps), c = 0) ∨
      ((∀ c ∈ evens (poly2cheb false ps), c = 0) ∧ thr < maxAbs (odds (poly2cheb false ps))))
    (hthr : 0 ≤ thr) :
    denL l (-(l.length : ℤ) + 1) = den p :=
  (QSP.den_poly2laurent thr ps l h1 hpar hthr).trans (QSP.den_polyToLaurentForm ps p h2).1.symm

/-! ### non-vacuity -/

example : (chebBasis false 3 : List ℤ) = [0, -3, 0, 4] ∧
    (chebBasis true 3 : List ℤ) = [0, -4, 0, 8] := by decide +kernel

example : cheb2poly false [(1 : ℚ), 2, 3, 4] = [-2, -10, 6, 16] := by decide +kernel
example : poly2cheb false [(-2 : ℚ), -10, 6, 16] = [1, 2, 3, 4] := by decide +kernel
example : cheb2poly true [(1 : ℚ), 2, 3, 4] = [-2, -12, 12, 32] := by decide +kernel
example : poly2cheb true [(-2 : ℚ), -12, 12, 32] = [1, 2, 3, 4] := by decide +kernel

/-- the field hypotheses are met by `ℚ` (characteristic zero) -/
example (cs : List ℚ) : poly2cheb false (cheb2poly false cs) = cs := poly2cheb_cheb2poly false cs

/-- `x^3` : the routine returns, and the hypotheses of `den_poly2laurent` hold -/
example : poly2laurent (1 / 100000000) [0, 0, 0, 1] = .ok [1 / 8, 3 / 8, 3 / 8, 1 / 8] ∧
    (∀ c ∈ evens (poly2cheb false [(0 : ℚ), 0, 0, 1]), c = 0) ∧
    (1 / 100000000 : ℚ) < maxAbs (odds (poly2cheb false [(0 : ℚ), 0, 0, 1])) := by
  decide +kernel

/-- `2 x^2 - 1` : even case -/
example : poly2laurent (1 / 100000000) [-1, 0, 2] = .ok [1 / 2, 0, 1 / 2] ∧
    (∀ c ∈ odds (poly2cheb false [(-1 : ℚ), 0, 2]), c = 0) := by
  decide +kernel

/-- the threshold conjunct of `den_poly2laurent` cannot be dropped: `x/2` is odd, its
    Chebyshev coefficients are `[0, 1/2]`, yet with threshold 1 the routine returns `[0]` -/
example : poly2laurent 1 [0, 1 / 2] = .ok [0] ∧
    (∀ c ∈ evens (poly2cheb false [(0 : ℚ), 1 / 2]), c = 0) ∧
    poly2cheb false [(0 : ℚ), 1 / 2] = [0, 1 / 2] := by
  decide +kernel

/-- mixed parity is refused by both converters -/
example : poly2laurent (1 / 100000000) [1, 1] = .error .parity ∧
    (polyToLaurentForm [1, 1]).isOk = false := by
  decide +kernel

/-- `polyToLaurentForm` returns on `x^3` (same coefficients as `poly2laurent`, lowest
    power `-3`) -/
example : (polyToLaurentForm [0, 0, 0, 1]).map (fun p => (p.coefs, p.dmin, p.iszero)) =
    .ok ([1 / 8, 3 / 8, 3 / 8, 1 / 8], -3, false) := by
  decide +kernel

end QSP.C11
