/-
  Property C20 — the command line front end parses its list options in both documented
  syntaxes to the same values and dispatches every documented command to the documented
  generator call.

  `floatList parse v` models `float_list` of `pyqsp/main.py` (`parse` stands for Python's
  `float`, an arbitrary partial function here), `joinC sep xs` is `sep.join(xs)`.  The
  property theorems and their non-vacuity examples; the lemmas they rest on are in
  `QSP/Proofs/Cli.lean`.
-/
import QSP.Proofs.Cli
namespace QSP.C20
open QSP

/-- `sep.join(xs).split(sep) == xs` for a nonempty list of separator-free tokens -/
theorem splitOnC_joinC (sep : Char) (xs : List (List Char)) (hx : xs ≠ [])
    (hs : ∀ t ∈ xs, sep ∉ t) : splitOnC sep (joinC sep xs) = xs :=
  QSP.splitOnC_joinC sep xs hx hs

theorem splitOnC_intercalate (sep : Char) (xs : List (List Char)) (hx : xs ≠ [])
    (hs : ∀ t ∈ xs, sep ∉ t) : splitOnC sep (List.intercalate [sep] xs) = xs := by
  rw [← joinC_eq_intercalate]; exact splitOnC_joinC sep xs hx hs

/-- the comma form `t1,t2,…,tn` parses to the values of its tokens (a single token that is
    itself bracketed belongs to the other syntax) -/
theorem floatList_comma {α : Type} (parse : List Char → Option α) (xs : List (List Char))
    (vs : List α) (hx : xs ≠ []) (hs : ∀ t ∈ xs, ',' ∉ t)
    (hb : ¬ (xs.length = 1 ∧ (joinC ',' xs).head? = some '[' ∧
      (joinC ',' xs).getLast? = some ']'))
    (hp : xs.mapM parse = some vs) : floatList parse (joinC ',' xs) = some vs :=
  QSP.floatList_comma parse xs vs hx hs hb hp

/-- … and fails exactly when one of its tokens does not parse -/
theorem floatList_comma_eq {α : Type} (parse : List Char → Option α) (xs : List (List Char))
    (hx : xs ≠ []) (hs : ∀ t ∈ xs, ',' ∉ t)
    (hb : ¬ (xs.length = 1 ∧ (joinC ',' xs).head? = some '[' ∧
      (joinC ',' xs).getLast? = some ']')) :
    floatList parse (joinC ',' xs) = xs.mapM parse :=
  QSP.floatList_comma_eq parse xs hx hs hb

/-- the same with a side condition on the tokens only -/
theorem floatList_comma' {α : Type} (parse : List Char → Option α) (xs : List (List Char))
    (vs : List α) (hx : xs ≠ []) (hs : ∀ t ∈ xs, ',' ∉ t)
    (hb : 2 ≤ xs.length ∨ ∀ t ∈ xs, '[' ∉ t)
    (hp : xs.mapM parse = some vs) : floatList parse (joinC ',' xs) = some vs :=
  QSP.floatList_comma' parse xs vs hx hs hb hp

/-- the bracketed form `[t1 t2 … tn]` parses to the values of its tokens -/
theorem floatList_bracket {α : Type} (parse : List Char → Option α) (xs : List (List Char))
    (vs : List α) (hx : xs ≠ []) (hs : ∀ t ∈ xs, t ≠ [] ∧ ',' ∉ t ∧ ' ' ∉ t)
    (hp : xs.mapM parse = some vs) :
    floatList parse ('[' :: joinC ' ' xs ++ [']']) = some vs :=
  QSP.floatList_bracket parse xs vs hx hs hp

/-- bracketed form, arbitrary blank-free pieces (an empty piece = two adjacent blanks, or a
    blank next to a bracket): empty pieces are dropped, all others are parsed -/
theorem floatList_bracket_eq {α : Type} (parse : List Char → Option α) (ps : List (List Char))
    (hx : ps ≠ []) (hs : ∀ t ∈ ps, ',' ∉ t ∧ ' ' ∉ t) :
    floatList parse ('[' :: joinC ' ' ps ++ [']']) =
      (ps.filter (fun t => !t.isEmpty)).mapM parse :=
  QSP.floatList_bracket_eq parse ps hx hs

/-- bracketed form with `a` blanks after `[`, `k + 1` blanks before each further token
    `(k, t)` of `r`, and `b` blanks before `]` -/
theorem floatList_bracket_blanks {α : Type} (parse : List Char → Option α) (x : List Char)
    (r : List (Nat × List Char)) (a b : Nat) (vs : List α)
    (hs : ∀ t ∈ x :: r.map Prod.snd, t ≠ [] ∧ ',' ∉ t ∧ ' ' ∉ t)
    (hp : (x :: r.map Prod.snd).mapM parse = some vs) :
    floatList parse ('[' :: (List.replicate a ' ' ++ joinBlanks x r ++ List.replicate b ' ')
      ++ [']']) = some vs :=
  QSP.floatList_bracket_blanks parse x r a b vs hs hp

/-- both syntaxes denote the same list of values -/
theorem floatList_both_forms {α : Type} (parse : List Char → Option α) (xs : List (List Char))
    (vs : List α) (hx : xs ≠ [])
    (hs : ∀ t ∈ xs, t ≠ [] ∧ ',' ∉ t ∧ ' ' ∉ t)
    (hb : 2 ≤ xs.length ∨ ∀ t ∈ xs, '[' ∉ t)
    (hp : xs.mapM parse = some vs) :
    floatList parse (joinC ',' xs) = some vs ∧
      floatList parse ('[' :: joinC ' ' xs ++ [']']) = some vs :=
  QSP.floatList_both_forms parse xs vs hx hs hb hp

/-! ### dispatch -/

/-- a command outside the table yields no dispatch row (for an unknown command the code prints the help
    text; `polyfunc`, `response`, `poly`, `angles` are outside the table too and are not described by it) -/
theorem dispatch_unknown (cmd : String)
    (h : cmd ∉ ["poly2angles", "hamsim", "fpsearch", "invert", "gibbs", "efilter", "relu",
      "poly_sign", "poly_thresh", "poly_phase", "poly_rect", "invert_rect",
      "poly_linear_amp"]) : dispatch cmd = none := QSP.dispatch_unknown cmd h

theorem dispatch_isSome_iff (cmd : String) :
    (dispatch cmd).isSome = true ↔
      cmd ∈ ["poly2angles", "hamsim", "fpsearch", "invert", "gibbs", "efilter", "relu",
        "poly_sign", "poly_thresh", "poly_phase", "poly_rect", "invert_rect",
        "poly_linear_amp"] := by
  show _ ↔ cmd ∈ commandNames
  refine ⟨fun h => Decidable.byContradiction fun hn => ?_, fun h => ?_⟩
  · simp [dispatch_unknown cmd hn] at h
  · obtain ⟨p, hp, rfl⟩ := List.mem_map.mp (QSP.dispatchTable_names ▸ h)
    simp [QSP.dispatch_total p hp]

/-- every documented command calls exactly the documented generators with the documented
    argument source and keyword arguments (`dispatchTable` spells the rows out literally) -/
theorem dispatch_total : ∀ p ∈ dispatchTable, dispatch p.1 = some p.2 := QSP.dispatch_total

theorem dispatchTable_names : dispatchTable.map Prod.fst =
    ["poly2angles", "hamsim", "fpsearch", "invert", "gibbs", "efilter", "relu",
      "poly_sign", "poly_thresh", "poly_phase", "poly_rect", "invert_rect",
      "poly_linear_amp"] := QSP.dispatchTable_names

/-! the rows of `dispatchTable` once more, one theorem each -/

theorem dispatch_poly2angles : dispatch "poly2angles" = some ⟨[], "poly", [], true⟩ := by
  simp [dispatch]
theorem dispatch_hamsim : dispatch "hamsim" =
    some ⟨["PolyCosineTX", "PolySineTX"], "seqargs",
      [("return_coef", "True"), ("ensure_bounded", "True"), ("return_scale", "True")], true⟩ := by
  simp [dispatch, boundedCoef]
theorem dispatch_fpsearch :
    dispatch "fpsearch" = some ⟨["FPSearch"], "seqargs", [], false⟩ := by
  simp [dispatch]
theorem dispatch_invert : dispatch "invert" =
    some ⟨["PolyOneOverX"], "seqargs",
      [("return_coef", "True"), ("ensure_bounded", "True"), ("return_scale", "True")], true⟩ := by
  simp [dispatch, boundedCoef]
theorem dispatch_gibbs : dispatch "gibbs" =
    some ⟨["PolyGibbs"], "seqargs", [("ensure_bounded", "True"), ("return_scale", "True")],
      true⟩ := by
  simp [dispatch, bounded]
theorem dispatch_efilter : dispatch "efilter" =
    some ⟨["PolyEigenstateFiltering"], "seqargs",
      [("ensure_bounded", "True"), ("return_scale", "True")], true⟩ := by
  simp [dispatch, bounded]
theorem dispatch_relu : dispatch "relu" =
    some ⟨["PolySoftPlus"], "seqargs", [("ensure_bounded", "True"), ("return_scale", "True")],
      true⟩ := by
  simp [dispatch, bounded]
theorem dispatch_poly_sign : dispatch "poly_sign" =
    some ⟨["PolySign"], "seqargs", [("ensure_bounded", "True"), ("return_scale", "True")],
      true⟩ := by
  simp [dispatch, bounded]
theorem dispatch_poly_thresh : dispatch "poly_thresh" =
    some ⟨["PolyThreshold"], "seqargs", [("ensure_bounded", "True"), ("return_scale", "True")],
      true⟩ := by
  simp [dispatch, bounded]
theorem dispatch_poly_phase : dispatch "poly_phase" =
    some ⟨["PolyPhaseEstimation"], "seqargs",
      [("ensure_bounded", "True"), ("return_scale", "True")], true⟩ := by
  simp [dispatch, bounded]
theorem dispatch_poly_rect : dispatch "poly_rect" =
    some ⟨["PolyRect"], "seqargs", [("ensure_bounded", "True"), ("return_scale", "True")],
      true⟩ := by
  simp [dispatch, bounded]
theorem dispatch_invert_rect : dispatch "invert_rect" =
    some ⟨["PolyOneOverXRect"], "seqargs",
      [("ensure_bounded", "True"), ("return_scale", "True")], true⟩ := by
  simp [dispatch, bounded]
theorem dispatch_poly_linear_amp : dispatch "poly_linear_amp" =
    some ⟨["PolyLinearAmplification"], "seqargs",
      [("ensure_bounded", "True"), ("return_scale", "True")], true⟩ := by
  simp [dispatch, bounded]

/-- every dispatched command except `fpsearch` hands its polynomial to the phase finder -/
theorem dispatch_phase_finder (cmd : String) (d : Dispatch) (h : dispatch cmd = some d) :
    d.callsPhaseFinder = true ↔ cmd ≠ "fpsearch" := QSP.dispatch_phase_finder cmd d h

/-! ### registry commands `poly --polyname` and `angles --seqname` -/

theorem dispatchNamed_poly (n c : String) (h : polyRegistry.lookup n = some c) :
    dispatchNamed "poly" (some n) = some ⟨[c], "polyargs", [], true⟩ :=
  QSP.dispatchNamed_poly n c h

theorem dispatchNamed_poly_none : dispatchNamed "poly" none = none :=
  QSP.dispatchNamed_poly_none

theorem dispatchNamed_poly_unknown (n : String) (h : polyRegistry.lookup n = none) :
    dispatchNamed "poly" (some n) = none := QSP.dispatchNamed_poly_unknown n h

theorem dispatchNamed_angles (n c : String) (h : phaseRegistry.lookup n = some c) :
    dispatchNamed "angles" (some n) = some ⟨[c], "seqargs", [], false⟩ :=
  QSP.dispatchNamed_angles n c h

theorem dispatchNamed_angles_none : dispatchNamed "angles" none = none :=
  QSP.dispatchNamed_angles_none

theorem dispatchNamed_angles_unknown (n : String) (h : phaseRegistry.lookup n = none) :
    dispatchNamed "angles" (some n) = none := QSP.dispatchNamed_angles_unknown n h

theorem dispatchNamed_other (cmd : String) (name : Option String) (h1 : cmd ≠ "poly")
    (h2 : cmd ≠ "angles") : dispatchNamed cmd name = dispatch cmd :=
  QSP.dispatchNamed_other cmd name h1 h2

/-! ### non-vacuity
  (`parseIntC`: optional `-` and decimal digits — `String.toInt?` is not kernel-reducible) -/

example : floatList parseIntC "3,4,-5".toList = some [3, 4, -5] := by
  decide +kernel
example : floatList parseIntC "[3 4  -5]".toList = some [3, 4, -5] := by
  decide +kernel
example : floatList parseIntC "[ 3 4 -5 ]".toList = some [3, 4, -5] := by
  decide +kernel
/-- a bracketed value with commas is split on the commas: `float("[3")` fails -/
example : floatList parseIntC "[3,4]".toList = none := by decide +kernel
/-- a token that does not parse makes the whole option fail -/
example : floatList parseIntC "3,x".toList = none := by decide +kernel
example : "3,4,-5".toList = joinC ',' ["3".toList, "4".toList, "-5".toList] := by decide +kernel
example : "[3 4  -5]".toList =
    '[' :: (List.replicate 0 ' ' ++ joinBlanks "3".toList [(0, "4".toList), (1, "-5".toList)]
      ++ List.replicate 0 ' ') ++ [']'] := by decide +kernel
example : dispatchNamed "poly" (some "relu") = some ⟨["PolyRelu"], "polyargs", [], true⟩ :=
  dispatchNamed_poly _ _ (by decide +kernel)
example : dispatchNamed "angles" (some "fpsearch") =
    some ⟨["FPSearch"], "seqargs", [], false⟩ := dispatchNamed_angles _ _ (by decide +kernel)
example : dispatchNamed "poly" (some "nosuch") = none :=
  dispatchNamed_poly_unknown _ (by decide +kernel)
example : dispatch "help" = none := by simp [dispatch]
example : dispatchNamed "gibbs" none = dispatch "gibbs" :=
  dispatchNamed_other _ _ (by simp) (by simp)

end QSP.C20
