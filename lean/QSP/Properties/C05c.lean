/-
  Properties C05 / C02 / C03 — the glue of `completion._pq_completion(P)` around its root
  finder, inside the model (`QSP/Model/PQCompletion.lean`, compared with the code on the
  recorded roots by the driver op `pq.complete`).

  (a) `polyFromRoots` denotes `∏ (X - C r)`, has `n + 1` coefficients and leading one `1`;
  (b) the exact-arithmetic completion identity.  Over any field `K` with a conjugation `σ`
      and `i² = -1`, `σ i = -i`: if (the root finder's specification)
        1 - P P* = L (1 - x²) ∏_{r ∈ re} (x-r)² ∏_{y ∈ im} (x²+y²)² ∏_{z ∈ cx} (x-z)(x+z)(x-σz)(x+σz)
      then `Q = s ∏(x-r) ∏(x-iy)(x+iy) ∏(x-z)(x+z)` (`s² = L`, `s` real: the code's
      `sqrt(lead(1-PP*)/lead(QQ*(1-x²)))`) satisfies `P P* + (1-x²) Q Q* = 1`.
      The specification contains the symmetry `x ↦ -x` of `1 - P P*` (definite parity of `P`):
      the code adds `-z` for a first-quadrant root `z` and drops the second quadrant.  The
      example `parity_needed` shows the model's `Q` is wrong for a non-even `1 - P P*`.
  (c) decision logic: classification, `argmin`/`delete`, sort, pairing, root count.

  Definitions and the proofs other results rest on: `QSP/Proofs/PQCompletion.lean`.
  In the examples `1 / 1000000` is `tol = 1e-6` of the selection loop of `_pq_completion`.
-/
import QSP.Proofs.PQCompletion
import Mathlib.Tactic.NormNum
open Polynomial
namespace QSP.C05c
open QSP

/-! ### (a) structure of `polyFromRoots` -/

theorem polyFromRoots_den (rs : List CQ) :
    toPolyC (polyFromRoots rs) = (rs.map fun r => X - C (toC r)).prod :=
  QSP.toPolyC_polyFromRoots rs

theorem polyFromRoots_length (rs : List CQ) : (polyFromRoots rs).length = rs.length + 1 :=
  QSP.polyFromRoots_length rs

theorem polyFromRoots_monic (rs : List CQ) :
    (toPolyC (polyFromRoots rs)).Monic ∧ (toPolyC (polyFromRoots rs)).natDegree = rs.length :=
  QSP.polyFromRoots_monic rs

theorem polyFromRoots_lead (rs : List CQ) :
    (polyFromRoots rs).getD rs.length (0, 0) = (1, 0) := by
  apply toC_injective
  rw [← coeff_toPolyC, toC_one]
  have h := polyFromRoots_monic rs
  rw [← h.2]
  exact h.1.coeff_natDegree

/-- the denominator `lead(Q Q* (1 - x²))` of the code's normalisation is `-1`, always -/
theorem pqDen_eq (rs : List CQ) : pqDen (polyFromRoots rs) = (-1, 0) := QSP.pqDen_eq rs

/-- the model's unnormalised `Q` is `∏(x-r) ∏(x-iy)(x+iy) ∏(x-z)(x+z)` -/
theorem model_Q (re im : List ℚ) (cx : List CQ) :
    toPolyC (polyFromRoots (rootsOfQ re im cx))
      = qMonic Complex.I (re.map fun r : ℚ => (r : ℂ)) (im.map fun y : ℚ => (y : ℂ))
          (cx.map toC) := QSP.toPolyC_rootsOfQ re im cx

/-! ### (b) the completion identity -/
section
variable {K : Type} [Field K]

-- `hσi` is part of the stated property but not needed for it (see `QSP.qMonic_mul_conj`)
set_option linter.unusedVariables false in
/-- `Q · Q*` is the full symmetric product the root finder is specified to have seen -/
theorem qMonic_mul_conj (σ : K →+* K) (i : K) (hi : i * i = -1) (hσi : σ i = -i)
    (re im cx : List K) (hre : ∀ r ∈ re, σ r = r) (him : ∀ y ∈ im, σ y = y) :
    qMonic i re im cx * (qMonic i re im cx).map σ = fullProd σ re im cx :=
  QSP.qMonic_mul_conj σ i hi re im cx hre him

/-- **C05**: the completion identity in exact arithmetic -/
theorem pq_completion_identity (σ : K →+* K) (i : K) (hi : i * i = -1) (hσi : σ i = -i)
    (re im cx : List K) (hre : ∀ r ∈ re, σ r = r) (him : ∀ y ∈ im, σ y = y)
    (P : K[X]) (L s : K) (hs : s * s = L) (hσs : σ s = s)
    (hR : 1 - P * P.map σ = C L * (1 - X ^ 2) * fullProd σ re im cx) :
    P * P.map σ + (1 - X ^ 2) *
      ((C s * qMonic i re im cx) * (C s * qMonic i re im cx).map σ) = 1 :=
  QSP.pq_completion_identity σ i hi hσi re im cx hre him P L s hs hσs hR

-- `hσi` is part of the stated property but not needed for it (see `QSP.qMonic_mul_conj`)
set_option linter.unusedVariables false in
/-- the quantity under the code's square root is the constant of the factorisation -/
theorem pq_ratio (σ : K →+* K) (i : K) (hi : i * i = -1) (hσi : σ i = -i)
    (re im cx : List K) (hre : ∀ r ∈ re, σ r = r) (him : ∀ y ∈ im, σ y = y)
    (P : K[X]) (L : K)
    (hR : 1 - P * P.map σ = C L * (1 - X ^ 2) * fullProd σ re im cx) :
    (1 - P * P.map σ).leadingCoeff /
      (qMonic i re im cx * (qMonic i re im cx).map σ * (1 - X ^ 2)).leadingCoeff = L :=
  ratio_of_monic σ (qMonic_monic i re im cx) P L
    (by rwa [QSP.qMonic_mul_conj σ i hi re im cx hre him])

-- `hσi` is part of the stated property but not needed for it (see `QSP.qMonic_mul_conj`)
set_option linter.unusedVariables false in
/-- (c) the number of roots of `Q` is `deg P - 1` -/
theorem pq_root_count (σ : K →+* K) (i : K) (hi : i * i = -1) (hσi : σ i = -i)
    (re im cx : List K) (hre : ∀ r ∈ re, σ r = r) (him : ∀ y ∈ im, σ y = y)
    (P : K[X]) (L : K) (hL : L ≠ 0)
    (hR : 1 - P * P.map σ = C L * (1 - X ^ 2) * fullProd σ re im cx) :
    re.length + 2 * im.length + 2 * cx.length + 1 = P.natDegree :=
  qMonic_natDegree i re im cx ▸ root_count_of_monic σ (qMonic_monic i re im cx) P L hL
    (by rwa [QSP.qMonic_mul_conj σ i hi re im cx hre him])

end

/-- what the model returns: the exact product over the selected roots and `-lead` -/
theorem pqComplete_eq (tol : ℚ) (roots : List CQ) (lead : ℚ) (q : List CQ) (ratio : ℚ)
    (h : pqComplete tol roots lead = some (q, ratio)) :
    ∃ re im cx, pqSelect tol roots = some (re, im, cx) ∧
      q = polyFromRoots (rootsOfQ re im cx) ∧ ratio = -lead :=
  QSP.pqComplete_eq tol roots lead q ratio h

/-- **end to end for the model**: the returned `(q, ratio)` completes `P` (with the real
    `s = sqrt L`), `ratio = L`, and `q` has `deg P` coefficients -/
theorem pqComplete_sound (tol : ℚ) (roots : List CQ) (lead : ℚ) (q : List CQ) (ratio : ℚ)
    (h : pqComplete tol roots lead = some (q, ratio))
    (re im : List ℚ) (cx : List CQ) (hsel : pqSelect tol roots = some (re, im, cx))
    (P : ℂ[X]) (L : ℂ)
    (hR : 1 - P * P.map (starRingEnd ℂ) = C L * (1 - X ^ 2) *
      fullProd (starRingEnd ℂ) (re.map fun r : ℚ => (r : ℂ)) (im.map fun y : ℚ => (y : ℂ))
        (cx.map toC)) :
    (∀ s : ℝ, (s : ℂ) * s = L →
      P * P.map (starRingEnd ℂ) + (1 - X ^ 2) *
        ((C (s : ℂ) * toPolyC q) * (C (s : ℂ) * toPolyC q).map (starRingEnd ℂ)) = 1) ∧
    ((1 - P * P.map (starRingEnd ℂ)).leadingCoeff = (lead : ℂ) → (ratio : ℂ) = L) ∧
    (L ≠ 0 → q.length = P.natDegree) :=
  QSP.pqComplete_sound tol roots lead q ratio h re im cx hsel P L hR

/-! ### (c) decision logic -/

theorem classifyPQ_real (tol : ℚ) (roots : List CQ) :
    (classifyPQ tol roots).1
      = (roots.filter fun r => decide (qabs r.2 < tol)).map Prod.fst := by
  rw [classifyPQ_eq]

theorem classifyPQ_imag (tol : ℚ) (roots : List CQ) :
    (classifyPQ tol roots).2.1
      = (roots.filter fun r =>
          decide (¬ qabs r.2 < tol ∧ r.1 > -tol ∧ r.2 > -tol ∧ r.1 < tol)).map Prod.snd := by
  rw [classifyPQ_eq]

theorem classifyPQ_cplx (tol : ℚ) (roots : List CQ) :
    (classifyPQ tol roots).2.2
      = roots.filter fun r =>
          decide (¬ qabs r.2 < tol ∧ r.1 > -tol ∧ r.2 > -tol ∧ ¬ r.1 < tol) := by
  rw [classifyPQ_eq]

/-- every root within `tol` of the real axis is classified real -/
theorem classifyPQ_real_mem (tol : ℚ) (roots : List CQ) (r : CQ) (hr : r ∈ roots)
    (h : |r.2| < tol) : r.1 ∈ (classifyPQ tol roots).1 := by
  rw [classifyPQ_eq, List.mem_map]
  exact ⟨r, List.mem_filter.mpr ⟨hr, by simpa [qabs_eq] using h⟩, rfl⟩

/-- `np.argmin`: valid index, a minimum, the first one -/
theorem argminQ_spec (l : List ℚ) (j : ℕ) (h : argminQ l = some j) :
    j < l.length ∧ (∀ k, k < l.length → l.getD j 0 ≤ l.getD k 0) ∧
      (∀ k, k < j → l.getD j 0 < l.getD k 0) := QSP.argminQ_spec l j h

/-- the removed entry is the (first) one nearest to `c` (`c = 1`, then `c = -1`) -/
theorem removeNearest_spec (c : ℚ) (l l' : List ℚ) (h : removeNearest c l = some l') :
    ∃ j, j < l.length ∧ l' = l.eraseIdx j ∧
      (∀ k, k < l.length → |c - l.getD j 0| ≤ |c - l.getD k 0|) ∧
      (∀ k, k < j → |c - l.getD j 0| < |c - l.getD k 0|) := QSP.removeNearest_spec c l l' h

/-- it fails (numpy raises) exactly on the empty list -/
theorem removeNearest_none (c : ℚ) (l : List ℚ) : removeNearest c l = none ↔ l = [] := by
  rw [removeNearest, Option.map_eq_none_iff, argminQ_none, distKeys, List.map_eq_nil_iff]

theorem removeNearest_exact (c : ℚ) (l l' : List ℚ) (hc : c ∈ l)
    (h : removeNearest c l = some l') :
    ∃ j, j < l.length ∧ l' = l.eraseIdx j ∧ l.getD j 0 = c := by
  obtain ⟨j, hj, rfl, h2, -⟩ := removeNearest_spec c l l' h
  obtain ⟨k, hk, rfl⟩ := List.getElem_of_mem hc
  have := h2 k hk
  rw [List.getD_eq_getElem _ _ hk, sub_self, abs_zero, abs_nonpos_iff, sub_eq_zero] at this
  exact ⟨j, hj, rfl, this.symm⟩

theorem sortQ_perm (l : List ℚ) : (sortQ l).Perm l := QSP.sortQ_perm l
theorem sortQ_sorted (l : List ℚ) : (sortQ l).Pairwise (· ≤ ·) :=
  sortQ_eq l ▸ List.pairwise_insertionSort _ l

/-- even count: half the length … -/
theorem pairUp_even (l : List ℚ) (h : l.length % 2 = 0) :
    pairUp l = pairMeans l ∧ 2 * (pairUp l).length = l.length := by
  have : pairUp l = pairMeans l := if_pos h
  exact ⟨this, by rw [this, pairMeans_length]; omega⟩

/-- … and each entry is the mean of its two sources -/
theorem pairMeans_getD (l : List ℚ) (k : ℕ) (h : 2 * k + 1 < l.length) :
    (pairMeans l).getD k 0 = (l.getD (2 * k) 0 + l.getD (2 * k + 1) 0) / 2 :=
  QSP.pairMeans_getD l k h

theorem pairUp_odd (l : List ℚ) (h : l.length % 2 = 1) :
    pairUp l = everySecond l ∧ 2 * (pairUp l).length = l.length + 1 := by
  have : pairUp l = everySecond l := if_neg (by omega)
  exact ⟨this, by rw [this, everySecond_length]; omega⟩

theorem everySecond_getD (l : List ℚ) (k : ℕ) (h : 2 * k < l.length) :
    (everySecond l).getD k 0 = l.getD (2 * k) 0 := by
  induction k generalizing l with
  | zero => match l, h with
    | [a], _ => rfl
    | a :: b :: rest, _ => rfl
  | succ k ih => match l, h with
    | a :: b :: rest, h =>
      rw [everySecond, List.getD_cons_succ,
        ih rest (by simp only [List.length_cons] at h; omega)]
      rfl

/-- exact double roots, listed next to each other after the sort, give the roots back -/
theorem pairMeans_doubled (l : List ℚ) : pairMeans (l.flatMap fun r => [r, r]) = l :=
  QSP.pairMeans_doubled l

theorem rootsOfQ_length (re im : List ℚ) (cx : List CQ) :
    (rootsOfQ re im cx).length = re.length + 2 * im.length + 2 * cx.length := by
  simp [rootsOfQ]; ring

/-! ### non-vacuity (kernel-evaluated on exact rational instances) -/

/-- `P = ((-24+15i)/17) x + (32/17) x³` (odd, genuinely complex):
    `1 - P P* = (1024/289)(1-x²)(x-z)(x+z)(x-z̄)(x+z̄)`, `z = (5+3i)/8`.  The model keeps the
    first-quadrant root, adds its negative and returns `x² - z²` and the ratio `(32/17)²`. -/
example : pqComplete (1 / 1000000)
      [(1, 0), (-5 / 8, 3 / 8), (-1, 0), (5 / 8, 3 / 8), (-5 / 8, -3 / 8), (5 / 8, -3 / 8)]
      (-1024 / 289)
    = some ([(-1 / 4, -15 / 32), (0, 0), (1, 0)], 1024 / 289) := by decide +kernel

/-- … and `Q = (32/17)(x² - z²)` completes that `P`: `P P* + (1 - x²) Q Q* = 1` on lists -/
example :
    let P : List CQ := [(0, 0), (-24 / 17, 15 / 17), (0, 0), (32 / 17, 0)]
    let Q : List CQ := [(-1 / 4, -15 / 32), (0, 0), (1, 0)].map (CQ.smul (32 / 17))
    cqAddL (cqConvL P (P.map CQ.conj))
        (cqConvL [(1, 0), (0, 0), (-1, 0)] (cqConvL Q (Q.map CQ.conj)))
      = [(1, 0), (0, 0), (0, 0), (0, 0), (0, 0), (0, 0), (0, 0)] := by decide +kernel

/-- real double roots split by the root finder (`1/2 ± 1e-8`, and a tiny imaginary part) are
    averaged back: `P = T₃`, `Q = 4 (x² - 1/4) = U₂`, ratio `16` -/
example : pqComplete (1 / 1000000)
      [(1 / 2 + 1 / 100000000, 0), (-1, 0), (-1 / 2, 1 / 100000000), (1, 0),
        (1 / 2 - 1 / 100000000, 0), (-1 / 2, -1 / 100000000)] (-16)
    = some ([(-1 / 4, 0), (0, 0), (1, 0)], 16) := by decide +kernel

/-- imaginary roots: of `±2i` (each twice) only `+2i` is collected (twice), averaged, and
    its negative added; a second-quadrant root is dropped, a first-quadrant one is kept -/
example : pqSelect (1 / 1000000)
      [(0, 2), (1, 0), (0, -2), (0, 2), (-1, 0), (0, -2), (0, 0), (0, 0), (-3, 1), (3, 1)]
    = some ([0], [2], [(3, 1)]) ∧
    rootsOfQ [0] [2] [(3, 1)] = [(0, 0), (0, 2), (0, -2), (3, 1), (-3, -1)] ∧
    polyFromRoots [(0, 2), (0, -2)] = [(4, 0), (0, 0), (1, 0)] := by decide +kernel

/-- the odd branch keeps every other entry; `argmin` takes the first of two ties;
    `np.argmin` of an empty array is an error -/
example : pairUp [1, 2, 4] = [1, 4] ∧ pairUp [1, 2, 4, 8] = [3 / 2, 6] ∧
    removeNearest 1 [0, 2, 3] = some [2, 3] ∧ sortQ [3, -1, 2, -1] = [-1, -1, 2, 3] ∧
    removeNearest 1 [] = none ∧ pqComplete (1 / 1000000) [(1, 0), (0, 1)] (-1) = none := by
  decide +kernel

/-- **the parity hypothesis is needed.**  For the non-even
    `1 - P P* = L (1 - x²)(x² - 2x + 2)` (roots `±1`, `1 ± i`; such `P` exist, of degree 2 and
    without parity, for small `L > 0`; the run below takes `lead = -1`, i.e. `L = 1`, too large for a `P`
    to exist, but `Q` does not depend on `lead`) the model — like the code — keeps `1 + i`, adds `-1 - i`,
    and returns
    `Q = x² - 2i`: `Q Q* = x⁴ + 4` is not the cofactor `x² - 2x + 2`, the degree is wrong
    (3 coefficients instead of `deg P = 2`). -/
theorem parity_needed :
    pqComplete (1 / 1000000) [(1, 0), (-1, 0), (1, 1), (1, -1)] (-1)
      = some ([(0, -2), (0, 0), (1, 0)], 1) ∧
    cqConvL [(0, -2), (0, 0), (1, 0)] ([(0, -2), (0, 0), (1, 0)].map CQ.conj)
      = [(4, 0), (0, 0), (0, 0), (0, 0), (1, 0)] ∧
    cqConvL [(0, -2), (0, 0), (1, 0)] ([(0, -2), (0, 0), (1, 0)].map CQ.conj)
      ≠ [(2, 0), (-2, 0), (1, 0)] := by decide +kernel

/-- the hypothesis of (b) is satisfiable over `ℂ` and the theorem specialises: `P = T₂`,
    `1 - P² = 4 (1 - x²) x²`, one real root `0` of `Q`, `s = 2`, `Q = 2x = U₁` -/
example :
    (C 2 * X ^ 2 - 1 : ℂ[X]) * (C 2 * X ^ 2 - 1 : ℂ[X]).map (starRingEnd ℂ) + (1 - X ^ 2) *
      ((C 2 * qMonic Complex.I [0] [] []) * (C 2 * qMonic Complex.I [0] [] []).map
        (starRingEnd ℂ)) = 1 := by
  refine pq_completion_identity (starRingEnd ℂ) Complex.I Complex.I_mul_I Complex.conj_I
    [0] [] [] (by simp) (by simp) _ 4 2 (by norm_num) (map_ofNat _ 2) ?_
  simp only [fullProd, List.map_cons, List.map_nil, List.prod_cons, List.prod_nil,
    Polynomial.map_sub, Polynomial.map_mul, Polynomial.map_pow, map_X, Polynomial.map_one,
    map_ofNat, C_0, Polynomial.map_ofNat]
  ring

end QSP.C05c
