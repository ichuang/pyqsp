/-
  Property C13 — symmetric QSP: the full phases of the protocol that `newton_Solver(coef, parity)`
  (`sym_qsp_opt.py`) returns realise the Chebyshev target `Σ_k c_k T_{2k+par}(a)` as
  `Im <0|U_x(a)|0>` (the `Wx / z` response of the mathematical definition) within `budget`, at EVERY
  signal value `a ∈ [-1, 1]`.  Proved: acceptance by the executable validator `validC13`
  (`QSP/Model/Validators.lean`) implies this; the harness applies the validator to what the library
  returns.  The control flow of the iteration is in `QSP/Properties/C13Flow.lean`.

  The proof is in `QSP/Proofs/ValidPhase.lean`; the response `respDef` of the definition is in
  `QSP/Proofs/RespDef.lean`.
-/
import QSP.Proofs.ValidPhase
open Complex
namespace QSP.C13
open QSP

/-- acceptance by `validC13` means: `|Im <0|U_x(a)|0> − Σ_k c_k T_{2k + par mod 2}(a)| ≤ budget`
    at every `a ∈ [-1, 1]` (`c` lists the non-trivial Chebyshev coefficients, low → high) -/
theorem validC13_sound (c : List ℚ) (par : ℕ) (phis : List ℚ) (budget : ℚ) (bits depth : ℕ)
    (v : VOut) (h : validC13 c par phis budget bits depth = .ok v) (hv : v.ok = true) :
    ∀ a : ℝ, a ∈ Set.Icc (-1 : ℝ) 1 →
      |(respDef .Wx .z (phis.map (fun q : ℚ => (q : ℝ))) a).im -
          ∑ k ∈ Finset.range c.length, ((c.getD k 0 : ℚ) : ℝ) *
            (Polynomial.Chebyshev.T ℝ ((2 * k + par % 2 : ℕ) : ℤ)).eval a| ≤ (budget : ℝ) :=
  QSP.validC13_sound c par phis budget bits depth v h hv

/-! ### non-vacuity -/

/-- evaluated once by the kernel, for the examples below -/
theorem validC13_accepted :
    (validC13 [84147 / 100000] 1 [1 / 2, 1 / 2] (1 / 100) 12 10).map (·.ok) = .ok true := by
  decide +kernel

/-- a kernel-checked accepting run: the symmetric phases `(1/2, 1/2)` give
    `Im <0|U_x(a)|0> = sin(1) a ≈ 0.84147 T_1(a)` … -/
example : (validC13 [84147 / 100000] 1 [1 / 2, 1 / 2] (1 / 100) 12 10).map (·.ok) = .ok true :=
  validC13_accepted

/-- … so the theorem applies to it -/
example : ∀ a : ℝ, a ∈ Set.Icc (-1 : ℝ) 1 →
    |(respDef .Wx .z ([1 / 2, 1 / 2].map (fun q : ℚ => (q : ℝ))) a).im -
        ∑ k ∈ Finset.range ([84147 / 100000] : List ℚ).length,
          ((([84147 / 100000] : List ℚ).getD k 0 : ℚ) : ℝ) *
            (Polynomial.Chebyshev.T ℝ ((2 * k + 1 % 2 : ℕ) : ℤ)).eval a| ≤ ((1 / 100 : ℚ) : ℝ) := by
  obtain ⟨v, h, hv⟩ := ok_of_map_ok validC13_accepted
  exact validC13_sound _ _ _ _ _ _ v h hv

/-- a wrong coefficient and an empty phase list are refused; a target of the wrong parity is
    an error (never an acceptance) -/
example : (validC13 [1 / 2] 1 [1 / 2, 1 / 2] (1 / 100) 12 10).map (·.ok) = .ok false ∧
    (validC13 [84147 / 100000] 0 [1 / 2, 1 / 2] (1 / 100) 12 10).map (·.ok) = .error .parity ∧
    (validC13 [84147 / 100000] 1 [] (1 / 100) 12 10).map (fun v => (v.ok, v.stage))
      = .ok (false, 0) := by decide +kernel

end QSP.C13
