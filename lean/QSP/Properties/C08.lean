/-
  Property C08 — the Low-algebra class `LAlg` (pairs `IPoly + XPoly·iX` of parity-constrained
  Laurent polynomials) computes exact arithmetic of the 2×2 matrices
      toMat ι g = [[A(w), i B(w)], [i B(1/w), A(1/w)]]          (A = IPoly, B = XPoly)
  over Mathlib's Laurent polynomials `R[T;T⁻¹]`; `unitary_from_angles` (on a non-empty list) and
  `unitary_from_conjugations` never fail and return the ordered matrix products of the QSP sequence;
  the result of `unitary_from_angles` on pairs with `c² + s² = 1` has `pnorm` exactly `1`.  Unitarity of
  `unitary_from_conjugations` is not stated.

  The definitions (`LA.WF`, `toMat`, `diagMat`, `rotMat`, `wMat`, `anglesProd`, `normPoly`) and the lemmas
  are in `QSP/Proofs/LAOps.lean` (component level), `QSP/Proofs/P2.lean` (the pair algebra) and
  `QSP/Proofs/LAlg.lean` (matrix form); the theorems stated here with a one-line proof are proved there.
  Every statement is for an arbitrary commutative ring `R`; `ι : R` is any element with `ι * ι = -1` (it
  only enters through the matrix form `toMat`; the component-level statements `mul_ok`, `pnorm_eq`,
  `normPoly_mul`, `fromAngles_unitary` do not need it).
-/
import QSP.Proofs.LAlg
import Mathlib.Data.Complex.Basic
open LaurentPolynomial
namespace QSP.C08
open QSP
variable {R : Type} [CommRing R]

/-! ### the operations of the class are the matrix operations -/

/-- product of two elements = product of the matrices -/
theorem toMat_mul (ι : R) (hι : ι * ι = -1) (g h r : LA R) (hg : g.WF) (hh : h.WF)
    (e : g.mul h = .ok r) : toMat ι r = toMat ι g * toMat ι h ∧ r.WF :=
  QSP.toMat_mul ι hι hg hh e

/-- the same at the level of the two components (no `ι`) -/
theorem mul_ok (g h r : LA R) (hg : g.WF) (hh : h.WF) (e : g.mul h = .ok r) :
    den r.I = den g.I * den h.I - den g.X * invert (den h.X) ∧
    den r.X = den g.I * den h.X + den g.X * invert (den h.I) ∧ r.WF :=
  QSP.LA.mul_ok hg hh e

theorem toMat_add (ι : R) (g h r : LA R) (hg : g.WF) (hh : h.WF) (e : g.add h = .ok r) :
    toMat ι r = toMat ι g + toMat ι h ∧ r.WF := QSP.toMat_add ι hg hh e

theorem toMat_sub (ι : R) (g h r : LA R) (hg : g.WF) (hh : h.WF) (e : g.sub h = .ok r) :
    toMat ι r = toMat ι g - toMat ι h ∧ r.WF := by
  obtain ⟨hI, hX, hwf⟩ := LA.sub_ok hg hh e
  refine ⟨?_, hwf⟩
  rw [toMat, toMat, toMat, hI, hX, sub_fin_two, invert_sub, invert_sub, mul_sub, mul_sub]

theorem toMat_neg (ι : R) (g r : LA R) (hg : g.WF) (e : g.neg = .ok r) :
    toMat ι r = - toMat ι g ∧ r.WF := QSP.toMat_neg ι hg e

/-- `LAlg + LPoly` adds `p` to the `IPoly` component -/
theorem toMat_addP (ι : R) (g r : LA R) (p : LP R) (hg : g.WF) (hp : p.WF)
    (e : g.addP p = .ok r) : toMat ι r = toMat ι g + diagMat (den p) ∧ r.WF := by
  obtain ⟨hI, hX, hwf⟩ := LA.addP_ok hg hp e
  refine ⟨?_, hwf⟩
  rw [toMat, toMat, diagMat, hI, hX, add_fin_two, invert_add, add_zero, add_zero]

/-- `~g` is the conjugate transpose on the unit circle (for real coefficients): entrywise
    `w → 1/w` and `i → -i`, then transpose -/
theorem toMat_conj (ι : R) (g r : LA R) (hg : g.WF) (e : g.conj = .ok r) :
    toMat ι r = ((toMat (-ι) g).map (invert : R[T;T⁻¹] → R[T;T⁻¹])).transpose ∧ r.WF :=
  QSP.toMat_conj ι hg e

/-- `LAlg * LPoly` -/
theorem toMat_mulR (ι : R) (g r : LA R) (p : LP R) (hg : g.WF) (hp : p.WF)
    (e : g.mulR p = .ok r) : toMat ι r = toMat ι g * diagMat (den p) ∧ r.WF :=
  QSP.toMat_mulR ι hg hp e

/-- `LPoly * LAlg` -/
theorem toMat_mulL (ι : R) (g r : LA R) (p : LP R) (hg : g.WF) (hp : p.WF)
    (e : LA.mulL p g = .ok r) : toMat ι r = diagMat (den p) * toMat ι g ∧ r.WF :=
  QSP.toMat_mulL ι hg hp e

/-- scalar `* LAlg` : every entry is multiplied by the constant polynomial `C c` -/
theorem toMat_smul (ι : R) (g r : LA R) (c : R) (hg : g.WF) (e : LA.smul c g = .ok r) :
    toMat ι r = (C c : R[T;T⁻¹]) • toMat ι g ∧ r.WF := by
  obtain ⟨hI, hX, hwf⟩ := LA.smul_ok hg e
  refine ⟨?_, hwf⟩
  rw [toMat, toMat, hI, hX, smul_fin_two]
  simp only [smul_eq_mul, invert_mul, invert_C, mul_left_comm _ (C ι)]

/-! ### constants -/

theorem toMat_w (ι : R) : toMat ι ⟨LP.w, LP.zero⟩ = wMat := QSP.toMat_w ι

theorem toMat_iX (ι : R) : toMat ι (LA.iX : LA R) = !![0, C ι; C ι, 0] := QSP.toMat_iX ι

theorem toMat_rotation (ι : R) (cs : R × R) : toMat ι (LA.rotation cs) = rotMat ι cs :=
  QSP.toMat_rotation ι cs

theorem toMat_one (ι : R) : toMat ι ⟨LP.one, LP.zero⟩ = 1 := QSP.toMat_one ι

/-! ### `unitary_from_angles` -/

/-- on a non-empty list the model never fails and returns the ordered product
    `R(φ0) W R(φ1) W ... W R(φn)` -/
theorem fromAngles_eq_prod (ι : R) (hι : ι * ι = -1) (cs : List (R × R)) (hcs : cs ≠ []) :
    ∃ g, LA.fromAngles cs = .ok g ∧ toMat ι g = anglesProd ι cs ∧ g.WF :=
  QSP.fromAngles_eq_prod ι hι cs hcs

/-- the empty list is refused (the code raises `IndexError`) -/
theorem fromAngles_nil : LA.fromAngles ([] : List (R × R)) = .error .other := QSP.fromAngles_nil

/-- products never fail on elements whose two components are non-zero-flagged with lowest
    powers of equal parity (`LA.NZ`), and stay in that class; this is the invariant behind
    `fromAngles_eq_prod` -/
theorem mul_defined (g h : LA R) (hg : g.NZ) (hh : h.NZ) : ∃ r, g.mul h = .ok r ∧ r.NZ :=
  QSP.LA.mul_NZ hg hh

/-! ### `pnorm` and unitarity -/

theorem pnorm_eq (g : LA R) (pn : LP R) (hg : g.WF) (e : g.pnorm = .ok pn) :
    den pn = den g.I * invert (den g.I) + den g.X * invert (den g.X) ∧ pn.WF :=
  QSP.pnorm_eq hg e

/-- `pnorm` is multiplicative (the determinant of `toMat`) -/
theorem normPoly_mul (g h r : LA R) (hg : g.WF) (hh : h.WF) (e : g.mul h = .ok r) :
    normPoly r = normPoly g * normPoly h :=
  (congrArg DS.nrm (DS.pden_mul hg hh e)).trans (DS.nrm_mul _ _)

/-- for angles given by pairs on the unit circle, `pnorm` of the result is computed without
    failure and is exactly the polynomial `1` (no `ι` is needed in `R`) -/
theorem fromAngles_unitary (cs : List (R × R)) (g : LA R)
    (hcs : ∀ c ∈ cs, c.1 ^ 2 + c.2 ^ 2 = 1) (e : LA.fromAngles cs = .ok g) :
    ∃ pn, g.pnorm = .ok pn ∧ den pn = 1 := QSP.fromAngles_unitary cs g hcs e

/-! ### `unitary_from_conjugations` -/

/-- never fails; the ordered product of the generators `R(t) W R(-t)`; the empty list gives
    the identity -/
theorem fromConjugations_eq_prod (ι : R) (hι : ι * ι = -1) (cs : List (R × R)) :
    ∃ g, LA.fromConjugations cs = .ok g ∧
      toMat ι g = (cs.map (fun c => rotMat ι c * wMat * rotMat ι (c.1, -c.2))).prod ∧ g.WF :=
  QSP.fromConjugations_eq_prod ι hι cs

/-! ### read-outs of elements of degree 0 and 1 -/

/-- the two components of `R(a) W R(b)` as Laurent polynomials -/
theorem fromAngles_two_den (ca sa cb sb : R) :
    ∃ g, LA.fromAngles [(ca, sa), (cb, sb)] = .ok g ∧ g.WF ∧
      den g.I = C (ca * cb) * T 1 - C (sa * sb) * T (-1) ∧
      den g.X = C (ca * sb) * T 1 + C (sa * cb) * T (-1) := by
  obtain ⟨g, e, hp, hr⟩ := DS.fromAngles_spec [(ca, sa), (cb, sb)] 1 rfl
  refine ⟨g, e, hr.wf, ?_⟩
  change (DS.pden g).A = _ ∧ (DS.pden g).B = _
  rw [hp]
  simp only [DS.angP, DS.tailP_cons, DS.tailP_nil, mul_one, DS.mul_A, DS.mul_B, DS.rot, DS.W,
    zero_mul, sub_zero, add_zero, invert_C, invert_T, invert_mul, RingHom.map_mul]
  constructor <;> ring

/-- `R(a) W R(b)`: at `w = 1` one reads `cos(a+b)`, `sin(a+b)`; at `w = i` one reads
    `i cos(a-b)`, `-i sin(a-b)` -/
theorem readout_two (ι : R) (hι : ι * ι = -1) (ca sa cb sb : R) :
    ∃ g, LA.fromAngles [(ca, sa), (cb, sb)] = .ok g ∧
      g.I.evalAt 1 1 = ca * cb - sa * sb ∧ g.X.evalAt 1 1 = ca * sb + sa * cb ∧
      g.I.evalAt ι (-ι) = ι * (ca * cb + sa * sb) ∧
      g.X.evalAt ι (-ι) = ι * (ca * sb - sa * cb) := by
  obtain ⟨g, hg, hwf, hI, hX⟩ := fromAngles_two_den ca sa cb sb
  -- the point `w = i` of the unit circle as a unit of `R`
  obtain ⟨u, hu, hu'⟩ : ∃ u : Rˣ, (u : R) = ι ∧ ((u⁻¹ : Rˣ) : R) = -ι :=
    ⟨Units.mkOfMulEqOne ι (-ι) (by rw [mul_neg, hι, neg_neg]), rfl, rfl⟩
  have eI := evalAt_eq g.I hwf.1 u
  have eX := evalAt_eq g.X hwf.2 u
  rw [hu, hu'] at eI eX
  refine ⟨g, hg, ?_, ?_, ?_, ?_⟩
  · rw [DS.evalAt_one _ hwf.1, hI]
    simp only [RingHom.map_sub, RingHom.map_mul, DS.e1_C, DS.e1_T, mul_one]
  · rw [DS.evalAt_one _ hwf.2, hX]
    simp only [RingHom.map_add, RingHom.map_mul, DS.e1_C, DS.e1_T, mul_one]
  · rw [eI, hI]
    simp only [RingHom.map_sub, RingHom.map_mul, eval₂_T, eval₂_C, zpow_one, zpow_neg_one, hu, hu',
      RingHom.id_apply]
    ring
  · rw [eX, hX]
    simp only [RingHom.map_add, RingHom.map_mul, eval₂_T, eval₂_C, zpow_one, zpow_neg_one, hu, hu',
      RingHom.id_apply]
    ring

theorem readout_zero (c s : R) :
    (LA.rotation (c, s)).I.getItem 0 = c ∧ (LA.rotation (c, s)).X.getItem 0 = s :=
  ⟨rfl, rfl⟩

/-! ### sign gauge -/

/-- scaling the k-th pair by `e_k` scales the product by `∏ e_k`; in particular phase shifts
    by multiples of π (`e_k = ±1`) with an even number of sign flips leave it unchanged -/
theorem anglesProd_scale (ι : R) (es : List R) (cs : List (R × R))
    (hlen : es.length = cs.length) :
    anglesProd ι (List.zipWith (fun e c => (e * c.1, e * c.2)) es cs) =
      (C es.prod : R[T;T⁻¹]) • anglesProd ι cs := by
  cases cs with
  | nil => rw [List.length_eq_zero_iff.mp hlen]; simp [anglesProd]
  | cons c cs =>
    obtain ⟨e, es, rfl⟩ := List.exists_cons_of_length_eq_add_one hlen
    simp only [List.zipWith_cons_cons, anglesProd, List.prod_cons]
    rw [rotMat_scale, foldl_scale ι es cs (Nat.succ_injective hlen), RingHom.map_mul]

set_option linter.unusedVariables false in
/-- phase shifts by multiples of π with an even number of sign flips leave the product
    unchanged (the hypothesis `hes : e = ±1` is what makes the shifted pairs phases again; the proof does
    not use it: the identity holds for any scalars of product 1) -/
theorem sign_gauge (ι : R) (es : List R) (cs : List (R × R)) (hlen : es.length = cs.length)
    (hes : ∀ e ∈ es, e = 1 ∨ e = -1) (hprod : es.prod = 1) :
    anglesProd ι (List.zipWith (fun e c => (e * c.1, e * c.2)) es cs) = anglesProd ι cs := by
  rw [anglesProd_scale ι es cs hlen, hprod, RingHom.map_one, one_smul]

/-! ### non-vacuity -/

/-- a square root of `-1` exists in a commutative ring (the complex numbers) -/
example : ∃ ι : ℂ, ι * ι = -1 := ⟨Complex.I, Complex.I_mul_I⟩

/-- concrete well-formed elements of either parity on which the operations return -/
example :
    let g : LA ℤ := ⟨LP.mk' [1, 2] (-1), LP.mk' [3] 1⟩
    let h : LA ℤ := LA.rotation (3, 4)
    g.WF ∧ h.WF ∧ (g.mul h).isOk = true ∧ (g.add g).isOk = true ∧ (g.sub g).isOk = true ∧
      g.neg.isOk = true ∧ g.conj.isOk = true ∧ (g.mulR LP.w).isOk = true ∧
      (LA.mulL LP.w g).isOk = true ∧ (LA.smul 2 g).isOk = true ∧ g.pnorm.isOk = true ∧
      (g.addP (LP.mk' [7] 1)).isOk = true := by
  intro g h
  refine ⟨?_, ?_, by decide +kernel, by decide +kernel, by decide +kernel, by decide +kernel,
    by decide +kernel, by decide +kernel, by decide +kernel, by decide +kernel, by decide +kernel,
    by decide +kernel⟩
  · unfold LA.WF LP.WF; decide +kernel
  · unfold LA.WF LP.WF; decide +kernel

/-- the hypotheses of `fromAngles_unitary` are met by a concrete list -/
example :
    let cs : List (ℤ × ℤ) := [(1, 0), (0, 1), (0, -1), (-1, 0)]
    (∀ c ∈ cs, c.1 ^ 2 + c.2 ^ 2 = 1) ∧ (LA.fromAngles cs).isOk = true ∧
      (LA.fromConjugations cs).isOk = true := by
  intro cs
  exact ⟨by decide +kernel, by decide +kernel, by decide +kernel⟩

/-- the hypotheses of `sign_gauge` are met -/
example :
    let es : List ℤ := [1, -1, -1]
    es.length = 3 ∧ (∀ e ∈ es, e = 1 ∨ e = -1) ∧ es.prod = 1 := by
  intro es
  exact ⟨rfl, by decide +kernel, by decide +kernel⟩

end QSP.C08
