/-
  Property C13 (control flow) — the loop of `newton_Solver` stops at the LEAST iteration at
  which a break condition holds, reports the error observed in that iteration (before its
  update) and the break that fired; `maxiter` is tested first.

  Model: `newtonExit crit maxiter errs` in `QSP/Model/SymQSP.lean` (iteration `k = 1, 2, …`
  observes `errs[k-1]`); the lemmas about its recursion `newtonExitAux` are in
  `QSP/Proofs/Newton.lean`.
-/
import QSP.Proofs.Newton
import Mathlib.Tactic.NormNum
namespace QSP.C13Flow
open QSP

/-- `k` is the least iteration at which a break condition holds, the reported error is
    the one observed in that iteration, and the reported branch is the one that fired
    (`maxiter` has priority) -/
theorem newtonExit_spec (crit maxiter : ℚ) (errs : List ℚ) (k : ℕ) (e : ℚ) (br : NewtonExit)
    (h : newtonExit crit maxiter errs = some (k, e, br)) :
    1 ≤ k ∧ k ≤ errs.length ∧ e = errs.getD (k - 1) 0 ∧
      (∀ j, 1 ≤ j → j < k → ¬ ((j : ℚ) ≥ maxiter) ∧ ¬ (errs.getD (j - 1) 0 < crit)) ∧
      (br = .maxiter → (k : ℚ) ≥ maxiter) ∧
      (br = .crit → ¬ ((k : ℚ) ≥ maxiter) ∧ e < crit) :=
  QSP.newtonExit_spec crit maxiter errs k e br h

/-- converse of `newtonExit_spec`: the least iteration with a break (if within the recorded errors) IS what
    is returned, with the branch decided by the `maxiter` test -/
theorem newtonExit_complete (crit maxiter : ℚ) (errs : List ℚ) (k : ℕ) (hk1 : 1 ≤ k)
    (hk2 : k ≤ errs.length) (hbr : NewtonBreak crit maxiter errs k)
    (hmin : ∀ j, 1 ≤ j → j < k → ¬ NewtonBreak crit maxiter errs j) :
    newtonExit crit maxiter errs
      = some (k, errs.getD (k - 1) 0, if (k : ℚ) ≥ maxiter then .maxiter else .crit) := by
  cases hres : newtonExit crit maxiter errs with
  | none => exact absurd hbr (not_or.mpr ((newtonExit_none_iff ..).mp hres k hk1 hk2))
  | some res =>
    obtain ⟨k', e', br'⟩ := res
    obtain ⟨a1, -, rfl, a4, a5, a6⟩ := newtonExit_spec crit maxiter errs k' e' br' hres
    have hbr' : NewtonBreak crit maxiter errs k' := by
      cases br' with
      | maxiter => exact Or.inl (a5 rfl)
      | crit => exact Or.inr (a6 rfl).2
    -- `k'` and `k` are both the least iteration with a break
    obtain rfl : k' = k := by
      rcases Nat.lt_trichotomy k' k with hlt | heq | hgt
      · exact absurd hbr' (hmin k' a1 hlt)
      · exact heq
      · exact absurd hbr (not_or.mpr (a4 k hk1 hgt))
    cases br' with
    | maxiter => rw [if_pos (a5 rfl)]
    | crit => rw [if_neg (a6 rfl).1]

/-- when both conditions hold in the stopping iteration, `maxiter` is reported -/
theorem newtonExit_priority (crit maxiter : ℚ) (errs : List ℚ) (k : ℕ) (e : ℚ) (br : NewtonExit)
    (h : newtonExit crit maxiter errs = some (k, e, br)) (hk : (k : ℚ) ≥ maxiter) :
    br = .maxiter := by
  obtain ⟨_, _, _, _, _, a6⟩ := newtonExit_spec crit maxiter errs k e br h
  cases br with
  | maxiter => rfl
  | crit => exact absurd hk (a6 rfl).1

/-- the iteration count never exceeds an integer `maxiter ≥ 1` -/
theorem newtonExit_le_maxiter (crit : ℚ) (m : ℕ) (hm : 1 ≤ m) (errs : List ℚ) (k : ℕ) (e : ℚ)
    (br : NewtonExit) (h : newtonExit crit (m : ℚ) errs = some (k, e, br)) : k ≤ m := by
  obtain ⟨_, _, _, a4, _, _⟩ := newtonExit_spec crit m errs k e br h
  exact Nat.le_of_not_lt fun hlt => (a4 m hm hlt).1 le_rfl

/-- edge: for `maxiter < 1` (0, negative) the body still runs once -/
theorem newtonExit_maxiter_lt_one (crit maxiter : ℚ) (hm : maxiter < 1) (errs : List ℚ)
    (he : errs ≠ []) :
    newtonExit crit maxiter errs = some (1, errs.head he, .maxiter) := by
  cases errs with
  | nil => exact absurd rfl he
  | cons x xs =>
    have : ((0 + 1 : ℕ) : ℚ) ≥ maxiter := by
      simp only [Nat.zero_add, Nat.cast_one]
      exact le_of_lt hm
    simp only [newtonExit, newtonExitAux, if_pos this, List.head_cons]

/-- `none` iff no break fires within the recorded errors -/
theorem newtonExit_none_iff (crit maxiter : ℚ) (errs : List ℚ) :
    newtonExit crit maxiter errs = none ↔
      ∀ j, 1 ≤ j → j ≤ errs.length →
        ¬ ((j : ℚ) ≥ maxiter) ∧ ¬ (errs.getD (j - 1) 0 < crit) :=
  QSP.newtonExit_none_iff crit maxiter errs

/-! ### non-vacuity -/

/-- the `crit` break: third iteration, error observed there -/
example : newtonExit (1 / 10) 5 [1, 1 / 2, 1 / 20, 1 / 100] = some (3, 1 / 20, .crit) := by
  norm_num [newtonExit, newtonExitAux]

/-- the `maxiter` break, also when `crit` holds in the same iteration -/
example : newtonExit (1 / 10) 2 [1, 1 / 20, 1 / 100] = some (2, 1 / 20, .maxiter) := by
  norm_num [newtonExit, newtonExitAux]

/-- `maxiter = 0`: one pass -/
example : newtonExit (1 / 10) 0 [1, 1 / 2] = some (1, 1, .maxiter) := by
  norm_num [newtonExit, newtonExitAux]

/-- no break within the record -/
example : newtonExit (1 / 10) 5 [1, 1 / 2] = none := by
  norm_num [newtonExit, newtonExitAux]

end QSP.C13Flow

