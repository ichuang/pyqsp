/-
  Property C06e (cited for C03 as well: in exact arithmetic the halving step cannot fail) —
  `pyqsp/decomposition.py :: decompose(g, ldeg)`:

      g = exp(iθ_0 X) w exp(iθ_1 X) … w exp(iθ_n X)
      "The linear system (m, s) is such that deg(l * g) <= deg - ldeg, l(Id) = Id.
       One can show that such a system has a unique solution."

  (a) SOLVABLE, for every list of `n + 1` unit pairs `(cos θ_k, sin θ_k)` over any commutative
      ring and every `1 ≤ ldeg ≤ n`: the model computes `g = fromAngles ps`, the documented prefix
      `pre = fromAngles (splitPrefix ps ldeg)` (first `ldeg` pairs, then the pair of
      `-(θ_0 + … + θ_{ldeg-1})`), the suffix `suf = fromAngles (splitSuffix ps ldeg)`; `l = ~pre`
      satisfies `m · vec(l) = s` for the EXECUTABLE `linSys` on the stored coefficient lists of
      `g` (which are its `aligned(-n, n)` lists); `l * g` is computed by `LA.mul` as the two halves
      `prodI`, `prodX` of `M · vec(l)` and denotes `suf`; `~l` is `pre`.  So an exact solver may
      return `(~l, truncate(l * g)) = (pre, suf)`: the exact-arithmetic algorithm cannot fail on
      this family.
  (b) UNIQUE over any commutative ring in which the cosines of the interior phases `θ_1 … θ_{n-1}` are
      regular, over a field: do not vanish (`rotation(φ) = e^{iφX}`: an interior phase that is an odd
      multiple of π/2 gives `W·iX·W = iX`, the degree drops by 2 and the rank of `m` drops from `2 ldeg + 2` to
      `2 ldeg`; checked numerically on the library): every solution of the system is that `l`
      (`decompose_unique`, `decompose_unique_field`).
  The harness compares what the top-level `decompose` of a run returns with `~l` and `suf` as the driver
  computes them from `splitPrefixQ`, `splitSuffixQ`.

  Proofs are in `QSP/Proofs/DecompSolve.lean` and `QSP/Proofs/DecompUnique.lean` (the pair algebra `DS.P2`,
  `DS.pden`, `DS.angP`, `DS.Rng`, `DS.X` is `QSP/Proofs/P2.lean`), executable definitions in
  `QSP/Model/DecompSplit.lean` (`rotProd`, `conjPair`, `splitPrefix`, `splitSuffix`),
  `QSP/Model/LinSys.lean` (`linSys`, `mulVec`, `vecOf`, `prodI`, `prodX`), `QSP/Model/LAlg.lean`.
-/
import QSP.Proofs.DecompSolve
import QSP.Proofs.DecompUnique
open LaurentPolynomial
namespace QSP.C06e
open QSP
variable {R : Type} [CommRing R]

/-- (a) solvability, stated against the executable model -/
theorem decompose_solvable (ps : List (R × R)) (n ldeg : ℕ) (hlen : ps.length = n + 1)
    (hunit : ∀ c ∈ ps, c.1 ^ 2 + c.2 ^ 2 = 1) (h1 : 1 ≤ ldeg) (h2 : ldeg ≤ n) :
    ∃ g pre suf l r : LA R,
      -- the model returns on all three lists, and the conjugates exist
      LA.fromAngles ps = .ok g ∧ LA.fromAngles (splitPrefix ps ldeg) = .ok pre ∧
      LA.fromAngles (splitSuffix ps ldeg) = .ok suf ∧ pre.conj = .ok l ∧ l.conj = .ok pre ∧
      -- `g` is stored on `-n .. n`: the inputs of `linear_system` are its coefficient lists
      g.I = ⟨g.I.coefs, -(n : ℤ), false⟩ ∧ g.X = ⟨g.X.coefs, -(n : ℤ), false⟩ ∧
      g.I.coefs.length = n + 1 ∧ g.X.coefs.length = n + 1 ∧
      g.I.aligned (-(n : ℤ)) n = .ok g.I.coefs ∧ g.X.aligned (-(n : ℤ)) n = .ok g.X.coefs ∧
      -- `l` is stored on `-ldeg .. ldeg`: `vec(l)` is the concatenation of its lists
      l.I = ⟨l.I.coefs, -(ldeg : ℤ), false⟩ ∧ l.X = ⟨l.X.coefs, -(ldeg : ℤ), false⟩ ∧
      l.I.coefs.length = ldeg + 1 ∧ l.X.coefs.length = ldeg + 1 ∧
      -- `l` solves the system
      mulVec (linSys g.I.coefs g.X.coefs ldeg).1 (vecOf l.I.coefs l.X.coefs)
        = (linSys g.I.coefs g.X.coefs ldeg).2 ∧
      -- `l * g` is the suffix
      l.mul g = .ok r ∧ den r.I = den suf.I ∧ den r.X = den suf.X ∧
      r.I = ⟨prodI g.I.coefs g.X.coefs l.I.coefs l.X.coefs, -((n : ℤ) + ldeg), false⟩ ∧
      r.X = ⟨prodX g.I.coefs g.X.coefs l.I.coefs l.X.coefs, -((n : ℤ) + ldeg), false⟩ ∧
      suf.I.dmin = -((n - ldeg : ℕ) : ℤ) ∧ suf.I.coefs.length = n - ldeg + 1 ∧
      suf.X.dmin = -((n - ldeg : ℕ) : ℤ) ∧ suf.X.coefs.length = n - ldeg + 1 := by
  obtain ⟨g, pre, suf, l, r, h1', h2', h3, h4, h5, rg, rl, rs, hsys, hmul, hden, hrI, hrX⟩ :=
    DS.decompose_solvable ps n ldeg hlen hunit h1 h2
  obtain ⟨gI, gX, gIl, gXl⟩ := rg.shape
  obtain ⟨lI, lX, lIl, lXl⟩ := rl.shape
  obtain ⟨-, -, sIl, sXl⟩ := rs.shape
  refine ⟨g, pre, suf, l, r, h1', h2', h3, h4, h5, gI, gX, gIl, gXl, ?_, ?_, lI, lX, lIl, lXl,
    hsys, hmul, congrArg DS.P2.A hden, congrArg DS.P2.B hden, hrI, hrX, rs.dmin_I, sIl, rs.dmin_X,
    sXl⟩
  · rw [gI]; exact LinSys.aligned_window gIl
  · rw [gX]; exact LinSys.aligned_window gXl

/-- the split is a factorisation: `g = pre · suf` in the pair algebra (`DS.pden` is the pair of
    denotations, the product of `DS.P2` is that of `LAlg.__mul__`) -/
theorem split_factorises (ps : List (R × R)) (n ldeg : ℕ) (hlen : ps.length = n + 1)
    (hunit : ∀ c ∈ ps, c.1 ^ 2 + c.2 ^ 2 = 1) (h2 : ldeg ≤ n) :
    DS.angP ps = DS.angP (splitPrefix ps ldeg) * DS.angP (splitSuffix ps ldeg) :=
  DS.angP_split hlen h2 hunit

/-- `unitary_from_angles` denotes `angP` and is stored on `-n .. n` -/
theorem fromAngles_spec (cs : List (R × R)) (n : ℕ) (hlen : cs.length = n + 1) :
    ∃ g, LA.fromAngles cs = .ok g ∧ DS.pden g = DS.angP cs ∧ DS.Rng n g :=
  DS.fromAngles_spec cs n hlen

/-- (b) uniqueness over any commutative ring: `ps` has `n + 1` unit pairs and the cosines of the
    INTERIOR pairs (`ps.tail.dropLast`: all but the first and the last) are regular; then every
    vector `vec(l) = lI ++ lX` with `m · vec(l) = s` for the executable `linSys` of
    `g = fromAngles ps` is the coefficient vector of `l0 = ~pre`, `pre` the documented prefix -/
theorem decompose_unique (ps : List (R × R)) (n ldeg : ℕ) (hlen : ps.length = n + 1)
    (hunit : ∀ c ∈ ps, c.1 ^ 2 + c.2 ^ 2 = 1)
    (hreg : ∀ c ∈ ps.tail.dropLast, ∀ x : R, x * c.1 = 0 → x = 0)
    (h1 : 1 ≤ ldeg) (h2 : ldeg ≤ n) (g pre l0 : LA R)
    (hg : LA.fromAngles ps = .ok g) (hpre : LA.fromAngles (splitPrefix ps ldeg) = .ok pre)
    (hl0 : pre.conj = .ok l0) (lI lX : List R) (hlI : lI.length = ldeg + 1)
    (hlX : lX.length = ldeg + 1)
    (hsys : mulVec (linSys g.I.coefs g.X.coefs ldeg).1 (vecOf lI lX)
      = (linSys g.I.coefs g.X.coefs ldeg).2) :
    lI = l0.I.coefs ∧ lX = l0.X.coefs :=
  DS.decompose_unique ps n ldeg hlen hunit hreg h1 h2 g pre l0 hg hpre hl0 lI lX hlI hlX hsys

/-- (b) over a field (or any domain): interior cosines non-zero, i.e. no interior phase is an odd
    multiple of π/2 -/
theorem decompose_unique_field {K : Type} [Field K] (ps : List (K × K)) (n ldeg : ℕ)
    (hlen : ps.length = n + 1) (hunit : ∀ c ∈ ps, c.1 ^ 2 + c.2 ^ 2 = 1)
    (hcos : ∀ c ∈ ps.tail.dropLast, c.1 ≠ 0)
    (h1 : 1 ≤ ldeg) (h2 : ldeg ≤ n) (g pre l0 : LA K)
    (hg : LA.fromAngles ps = .ok g) (hpre : LA.fromAngles (splitPrefix ps ldeg) = .ok pre)
    (hl0 : pre.conj = .ok l0) (lI lX : List K) (hlI : lI.length = ldeg + 1)
    (hlX : lX.length = ldeg + 1)
    (hsys : mulVec (linSys g.I.coefs g.X.coefs ldeg).1 (vecOf lI lX)
      = (linSys g.I.coefs g.X.coefs ldeg).2) :
    lI = l0.I.coefs ∧ lX = l0.X.coefs :=
  DS.decompose_unique ps n ldeg hlen hunit (DS.regular_of_ne_zero hcos) h1 h2 g pre l0 hg hpre hl0
    lI lX hlI hlX hsys

/-- the kernel of the degree constraints alone (no `l(Id) = Id`): `x` stored on `-e .. e` with
    `x · g` vanishing outside `-(m - e) .. m - e` is `R(q) · ~(R(c0) W ⋯ R(c_{e-1}) W)` -/
theorem degree_constraints_kernel (e : ℕ) (cs : List (R × R)) (m : ℕ) (a b : List R)
    (hlen : cs.length = m + 1) (hem : e ≤ m) (hunit : ∀ c ∈ cs, c.1 ^ 2 + c.2 ^ 2 = 1)
    (hreg : ∀ c ∈ cs.tail.dropLast, ∀ x : R, x * c.1 = 0 → x = 0)
    (ha : a.length = e + 1) (hb : b.length = e + 1)
    (hvan : ∀ k : ℤ, (k < -((m : ℤ) - e) ∨ (m : ℤ) - e < k) →
      (DS.X a b e * DS.angP cs).A.coeff k = 0 ∧ (DS.X a b e * DS.angP cs).B.coeff k = 0) :
    ∃ q : R × R, DS.X a b e = DS.rot q * DS.conj (DS.headP e cs) :=
  DS.PWin.peel e cs m _ hlen hem hunit hreg (DS.X_pwin a b e ha hb) hvan

/-! ### non-vacuity -/

/-- the hypotheses are met by the rational rotations `(3/5, 4/5), (5/13, 12/13), (8/17, 15/17)`
    (`n = 2`, `ldeg = 1`), and the objects of the theorem are the ones the kernel computes: the
    prefix pairs, `l = ~pre`, the system and its satisfaction -/
example :
    let ps : List (ℚ × ℚ) := [(3/5, 4/5), (5/13, 12/13), (8/17, 15/17)]
    ps.length = 2 + 1 ∧ (∀ c ∈ ps, c.1 ^ 2 + c.2 ^ 2 = 1) ∧
    splitPrefixQ ps 1 = [(3/5, 4/5), (3/5, -4/5)] ∧
    splitSuffixQ ps 1 = [(-33/65, 56/65), (8/17, 15/17)] ∧
    ((LA.fromAngles (splitPrefixQ ps 1)).toOption.bind fun p => p.conj.toOption).map
        (fun l => (l.I.coefs, l.I.dmin, l.X.coefs, l.X.dmin))
      = some ([9/25, 16/25], -1, [-12/25, 12/25], -1) ∧
    mulVecQ (linSysQ [-60/221, -924/1105, 24/221] [32/221, -432/1105, 45/221] 1).1
        (vecOf [9/25, 16/25] [-12/25, 12/25])
      = (linSysQ [-60/221, -924/1105, 24/221] [32/221, -432/1105, 45/221] 1).2 := by
  intro ps
  exact ⟨rfl, by decide +kernel, by decide +kernel, by decide +kernel, by decide +kernel,
    by decide +kernel⟩

/-- the theorem applies to that list -/
example : ∃ g pre suf l r : LA ℚ,
    LA.fromAngles [((3 : ℚ)/5, (4 : ℚ)/5), (5/13, 12/13), (8/17, 15/17)] = .ok g ∧
    LA.fromAngles (splitPrefix [((3 : ℚ)/5, (4 : ℚ)/5), (5/13, 12/13), (8/17, 15/17)] 1) = .ok pre ∧
    pre.conj = .ok l ∧ l.mul g = .ok r ∧ den r.I = den suf.I ∧
    mulVec (linSys g.I.coefs g.X.coefs 1).1 (vecOf l.I.coefs l.X.coefs)
      = (linSys g.I.coefs g.X.coefs 1).2 := by
  obtain ⟨g, pre, suf, l, r, a1, a2, -, a4, -, -, -, -, -, -, -, -, -, -, -, a5, a6, a7, -⟩ :=
    decompose_solvable [((3 : ℚ)/5, (4 : ℚ)/5), (5/13, 12/13), (8/17, 15/17)] 2 1 rfl
      (by decide +kernel) (le_refl 1) (by norm_num)
  exact ⟨g, pre, suf, l, r, a1, a2, a4, a6, a7, a5⟩

/-- the hypotheses of (b) are met by the same list: the only interior pair is `(5/13, 12/13)` -/
example :
    let ps : List (ℚ × ℚ) := [(3/5, 4/5), (5/13, 12/13), (8/17, 15/17)]
    ps.tail.dropLast = [(5/13, 12/13)] ∧ (∀ c ∈ ps.tail.dropLast, c.1 ≠ 0) := by
  intro ps
  exact ⟨by decide +kernel, by decide +kernel⟩

/-- (b) applies: every solution of that system is `([9/25, 16/25], [-12/25, 12/25])` -/
example (lI lX : List ℚ) (hlI : lI.length = 2) (hlX : lX.length = 2)
    (hsys : mulVecQ (linSysQ [-60/221, -924/1105, 24/221] [32/221, -432/1105, 45/221] 1).1
        (vecOf lI lX)
      = (linSysQ [-60/221, -924/1105, 24/221] [32/221, -432/1105, 45/221] 1).2) :
    lI = [9/25, 16/25] ∧ lX = [-12/25, 12/25] := by
  have hunit : ∀ c ∈ [((3 : ℚ)/5, (4 : ℚ)/5), (5/13, 12/13), (8/17, 15/17)],
      c.1 ^ 2 + c.2 ^ 2 = 1 := by decide +kernel
  obtain ⟨g, pre, suf, l, r, a1, a2, -, a4, -⟩ :=
    decompose_solvable [((3 : ℚ)/5, (4 : ℚ)/5), (5/13, 12/13), (8/17, 15/17)] 2 1 rfl hunit
      (le_refl 1) (by norm_num)
  have e1 : (LA.fromAngles [((3 : ℚ)/5, (4 : ℚ)/5), (5/13, 12/13), (8/17, 15/17)]).toOption.map
      (fun g => (g.I.coefs, g.X.coefs))
      = some ([-60/221, -924/1105, 24/221], [32/221, -432/1105, 45/221]) := by decide +kernel
  have e2 : ((LA.fromAngles (splitPrefix [((3 : ℚ)/5, (4 : ℚ)/5), (5/13, 12/13), (8/17, 15/17)] 1)).toOption.bind
      fun p => p.conj.toOption).map (fun l => (l.I.coefs, l.X.coefs))
      = some ([9/25, 16/25], [-12/25, 12/25]) := by decide +kernel
  rw [a1] at e1
  rw [a2] at e2
  simp only [Except.toOption, Option.map_some, Option.bind_some, a4, Option.some.injEq,
    Prod.mk.injEq] at e1 e2
  have hcos : ∀ c ∈ ([((3 : ℚ)/5, (4 : ℚ)/5), (5/13, 12/13), (8/17, 15/17)] : List (ℚ × ℚ)).tail.dropLast,
      c.1 ≠ 0 := by decide +kernel
  have h := decompose_unique_field _ 2 1 rfl hunit hcos (le_refl 1) (by norm_num) g pre l a1 a2 a4
    lI lX hlI hlX (by rw [e1.1, e1.2]; exact hsys)
  rw [e2.1, e2.2] at h
  exact h

/-- SHARPNESS of the hypothesis of (b): with the interior phase π/2 (pair `(0, 1)`) the element
    `W · iX · W = iX` is stored on `-2 .. 2` but the system has (at least) two solutions,
    `l = w⁻¹` and `l = w` -/
example :
    (LA.fromAngles [((1 : ℚ), (0 : ℚ)), (0, 1), (1, 0)]).toOption.map
        (fun g => (g.I.coefs, g.I.dmin, g.X.coefs, g.X.dmin)) = some ([0, 0, 0], -2, [0, 1, 0], -2) ∧
    mulVecQ (linSysQ [0, 0, 0] [0, 1, 0] 1).1 (vecOf [1, 0] [0, 0]) = (linSysQ [0, 0, 0] [0, 1, 0] 1).2 ∧
    mulVecQ (linSysQ [0, 0, 0] [0, 1, 0] 1).1 (vecOf [0, 1] [0, 0]) = (linSysQ [0, 0, 0] [0, 1, 0] 1).2 := by
  decide +kernel

end QSP.C06e
