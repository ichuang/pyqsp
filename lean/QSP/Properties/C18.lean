/-
  Property C18 — fixed-point search (`phases.py :: FPSearch.generate`).

  The interleaving of the returned phase vector (`fpLayout`) has length `2d`, is palindromic and has
  the entries `2k ↦ -a_{d-1-k}/2`, `2k+1 ↦ -a_k/2`.  The certificate `validFP d phis x tol bits`
  (`QSP/Model/FPSearch.lean`) is sound: acceptance means that the reflection sequence
  `U = R ∏_k (e^{iφ_k Z} R)`, `R = [[√λ, √(1-λ)], [√(1-λ), -√λ]]`, with the `2d` phases `phis` has
  success probability `P(λ) = |U_00|²` within `tol` of the Yoder–Low–Chuang value
  `1 - T_L(x √(1-λ))² / T_L(x)²` (`L = 2d+1`, `δ = 1/T_L(x)`) at EVERY overlap `λ ∈ [0,1]`, and hence
  `P(λ) ≥ 1 - δ² - tol` wherever `x² (1-λ) ≤ 1`.  The harness applies the certificate to the returned
  phases with a rational `x` it computes from `δ`; the relation of `x = 1/γ` to `δ` is the subject of
  `QSP/Properties/C18b.lean`.

  The proofs are in `QSP/Proofs/FPSearch.lean`; `Ucirc` is in `QSP/Proofs/BallSound.lean`, `brG` in
  `QSP/Proofs/Response.lean`.
-/
import QSP.Proofs.FPSearch
open Matrix Complex
open scoped Matrix.Norms.L2Operator
namespace QSP.C18
open QSP

/-! ### the interleaving -/

theorem fpLayout_length (a : List ℚ) : (fpLayout a).length = 2 * a.length :=
  QSP.fpLayout_length a

theorem fpLayout_palindrome (a : List ℚ) : (fpLayout a).reverse = fpLayout a := by
  unfold fpLayout
  rw [fpLayoutAux_reverse _ _ (by simp), List.reverse_reverse]

/-- entries `2k ↦ -a_{d-1-k}/2`, `2k+1 ↦ -a_k/2` (`d = a.length`, `k < d`) -/
theorem fpLayout_getD (a : List ℚ) (k : ℕ) (hk : k < a.length) :
    (fpLayout a).getD (2 * k) 0 = -(a.getD (a.length - 1 - k) 0) / 2 ∧
    (fpLayout a).getD (2 * k + 1) 0 = -(a.getD k 0) / 2 := by
  obtain ⟨h1, h2⟩ := fpLayoutAux_getD a.reverse a k (by simpa using hk) hk
  refine ⟨?_, h2⟩
  rw [fpLayout, h1]
  congr 2
  rw [List.getD_eq_getElem _ _ (by simpa using hk), List.getElem_reverse,
    List.getD_eq_getElem _ _ (by omega)]

/-! ### the ball lemma for arbitrary enclosure lists -/

/-- for ANY list of enclosures `es` of `(cos ψ_i, sin ψ_i)` the Low-algebra element computed
    exactly from the centres is, at every point of the circle, within the `prodErr` bound
    (spectral norm) of the product `Ucirc θ ψs` of the true rotations -/
theorem fromAngles_encl_sound (es : List Encl) (ψs : List ℝ) (hF : List.Forall₂ EnclOK es ψs)
    (g : LA ℚ) (h : LA.fromAngles (es.map Encl.pair) = .ok g) :
    (∀ θ : ℝ, ‖evMat g θ - Ucirc θ ψs‖
        ≤ (((prodErr (es.map Encl.rotBound) (1, 0)).2 : ℚ) : ℝ)) ∧
      0 ≤ (prodErr (es.map Encl.rotBound) (1, 0)).2 ∧ g.NZ :=
  QSP.fromAngles_encl_sound es ψs hF g h

/-- the enclosures used by `validFP` enclose the angles `0, φ_1 + π/2, …, φ_{2d} + π/2, π/2` -/
theorem fpEncls_ok (bits : ℕ) (phis : List ℚ) :
    List.Forall₂ EnclOK (fpEncls bits phis) (fpAngles (phis.map (fun q : ℚ => (q : ℝ)))) :=
  QSP.fpEncls_ok bits phis

/-! ### the certificate is sound -/

/-- acceptance by `validFP d phis x tol bits` means: `2d` phases, `x ≥ 1`, and at EVERY point of
    the circle the squared `|+>` corner of the Low-algebra product with the angles
    `fpAngles phis` is within `tol` of `1 - T_L(x sin θ)² / T_L(x)²`, `L = 2d+1` -/
theorem validFP_sound (d : ℕ) (phis : List ℚ) (x tol : ℚ) (bits : ℕ) (v : VOut)
    (h : validFP d phis x tol bits = .ok v) (hv : v.ok = true) :
    phis.length = 2 * d ∧ 1 ≤ x ∧ ∀ θ : ℝ,
      |‖brG .x (Ucirc θ (fpAngles (phis.map (fun q : ℚ => (q : ℝ)))))‖ ^ 2
        - (1 - ((Polynomial.Chebyshev.T ℝ ((2 * d + 1 : ℕ) : ℤ)).eval ((x : ℝ) * Real.sin θ)) ^ 2
            / ((Polynomial.Chebyshev.T ℝ ((2 * d + 1 : ℕ) : ℤ)).eval (x : ℝ)) ^ 2)|
        ≤ (tol : ℝ) := QSP.validFP_sound d phis x tol bits v h hv

/-! ### the reflection sequence is that Low-algebra product -/

/-- with `a = cos α`, `b = sin α`: the (0,0) entry of `U = R ∏_k (e^{iφ_k Z} R)` is, up to a
    global phase, the `<+| · |+>` corner of the Low-algebra product at the circle point `e^{iα}` -/
theorem reflection_as_LA_phase (α : ℝ) (φs : List ℝ) :
    ∃ c : ℂ, ‖c‖ = 1 ∧
      (Urefl (Real.cos α) (Real.sin α) φs) 0 0 = c * brG .x (Ucirc α (fpAngles φs)) :=
  QSP.reflection_as_LA_phase α φs

theorem reflection_as_LA (α : ℝ) (φs : List ℝ) :
    ‖(Urefl (Real.cos α) (Real.sin α) φs) 0 0‖ = ‖brG .x (Ucirc α (fpAngles φs))‖ :=
  QSP.reflection_as_LA α φs

/-! ### the property -/

/-- under acceptance by `validFP`, for every overlap `λ ∈ [0,1]` the success probability of the
    reflection sequence is within `tol` of `1 - T_L(x √(1-λ))² / T_L(x)²` -/
theorem validFP_Psucc (d : ℕ) (phis : List ℚ) (x tol : ℚ) (bits : ℕ) (v : VOut)
    (h : validFP d phis x tol bits = .ok v) (hv : v.ok = true)
    (lam : ℝ) (hlam : lam ∈ Set.Icc (0 : ℝ) 1) :
    |Psucc lam (phis.map (fun q : ℚ => (q : ℝ)))
        - (1 - ((Polynomial.Chebyshev.T ℝ ((2 * d + 1 : ℕ) : ℤ)).eval
              ((x : ℝ) * Real.sqrt (1 - lam))) ^ 2
            / ((Polynomial.Chebyshev.T ℝ ((2 * d + 1 : ℕ) : ℤ)).eval (x : ℝ)) ^ 2)|
      ≤ (tol : ℝ) := QSP.validFP_Psucc d phis x tol bits v h hv lam hlam

/-- the fixed-point property: wherever `x² (1 - λ) ≤ 1` the success probability is at least
    `1 - δ² - tol` with `δ = 1 / T_L(x)` -/
theorem validFP_fixed_point (d : ℕ) (phis : List ℚ) (x tol : ℚ) (bits : ℕ) (v : VOut)
    (h : validFP d phis x tol bits = .ok v) (hv : v.ok = true)
    (lam : ℝ) (hlam : lam ∈ Set.Icc (0 : ℝ) 1) (hw : (x : ℝ) ^ 2 * (1 - lam) ≤ 1) :
    1 - 1 / ((Polynomial.Chebyshev.T ℝ ((2 * d + 1 : ℕ) : ℤ)).eval (x : ℝ)) ^ 2 - (tol : ℝ)
      ≤ Psucc lam (phis.map (fun q : ℚ => (q : ℝ))) :=
  QSP.validFP_fixed_point d phis x tol bits v h hv lam hlam hw

/-! ### non-vacuity -/

/-- the interleaving on a concrete vector -/
example : fpLayout [1, 2, 3] = [-3 / 2, -1 / 2, -1, -1, -1 / 2, -3 / 2] := by decide +kernel

/-- evaluated once by the kernel, for the examples below (`d = 1`, `x = 6/5`) -/
theorem validFP_accepted :
    (validFP 1 [-7 / 3, -7 / 3] (6 / 5) (1 / 100) 12).map (·.ok) = .ok true := by decide +kernel

/-- a kernel-checked accepting run: `d = 1` (`L = 3`), `x = 6/5` (`δ = 1/T_3(6/5) = 125/414`),
    phases `≈ FPSearch.generate(1, gamma = 5/6) = (-2.33445, -2.33445)` rounded to `-7/3` … -/
example : (validFP 1 [-7 / 3, -7 / 3] (6 / 5) (1 / 100) 12).map (·.ok) = .ok true :=
  validFP_accepted

/-- … and a length-4 run (`d = 2`, `L = 5`, `x = 11/10`) with the library's phases to 6 digits -/
example : (validFP 2 [-385377 / 206669, -294821 / 445089, -294821 / 445089, -385377 / 206669]
    (11 / 10) (1 / 1000) 24).map (·.ok) = .ok true := by decide +kernel

/-- … so the theorems apply: for every overlap `λ ≥ 11/36` (`(6/5)² (1-λ) ≤ 1`) the two-phase
    sequence succeeds with probability at least `1 - 1/T_3(6/5)² - 1/100` -/
example : ∀ lam : ℝ, lam ∈ Set.Icc (0 : ℝ) 1 → (((6 / 5 : ℚ) : ℝ)) ^ 2 * (1 - lam) ≤ 1 →
    1 - 1 / ((Polynomial.Chebyshev.T ℝ ((2 * 1 + 1 : ℕ) : ℤ)).eval (((6 / 5 : ℚ) : ℝ))) ^ 2
        - (((1 / 100 : ℚ) : ℝ))
      ≤ Psucc lam ([-7 / 3, -7 / 3].map (fun q : ℚ => (q : ℝ))) := by
  obtain ⟨v, h, hv⟩ := ok_of_map_ok validFP_accepted
  intro lam hlam hw
  exact validFP_fixed_point 1 _ _ _ 12 v h hv lam hlam hw

/-- wrong phases are refused (the validator is not trivially `true`) -/
example : (validFP 1 [-2, -2] (6 / 5) (1 / 1000) 24).map (·.ok) = .ok false := by decide +kernel

/-- a phase list of the wrong length and an `x < 1` are refused at stage 0 -/
example : (validFP 1 [-7 / 3] (6 / 5) (1 / 100) 12).map (fun v => (v.ok, v.stage))
    = .ok (false, 0) := by decide +kernel
example : (validFP 1 [-7 / 3, -7 / 3] (5 / 6) (1 / 100) 12).map (fun v => (v.ok, v.stage))
    = .ok (false, 0) := by decide +kernel

end QSP.C18
