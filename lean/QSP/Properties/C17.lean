/-
  Property C17 — the options of the polynomial generators are honoured:
    * `return_scale` only changes the return shape, never the coefficients;
    * the result is the pair `(coefficients, scale)` iff `ensure_bounded ∧ return_scale`
      (`PolyOneOverXRect`: iff `return_scale`);
    * the returned scale is the factor that was actually applied: the bounded coefficients are
      the unbounded ones times the scale (erf family, cosine, sine, 1/x; both bases); for
      `PolyOneOverXRect`, it is the product of the scales of the two factors;
    * `chebyshev_basis = True / False` denote the same polynomial (cosine, sine, 1/x).

  Model: `QSP/Model/Generators.lean`.  The numerical oracles (fit, optimiser value, Bessel
  values, binomial sums, factor vectors) are parameters and every theorem holds for ALL their
  values.  Only property theorems (and their non-vacuity examples) live here; helper lemmas are
  in `QSP/Proofs/Generators.lean`; `toPoly`, `chebSum` and the linearity of `cheb2poly` are those
  of property C11 (`QSP/Proofs/Cheb.lean`):

    toPoly l          = sum_i l[i] X^i
    chebSum false cs  = sum_i cs[i] * T_i
-/
import QSP.Proofs.Generators
namespace QSP.C17
open QSP

/-! ### `return_scale` does not change the coefficients -/

/-- erf family (the basis option only reaches the fit oracle, so it is not even needed) -/
theorem erfGenerate_returnScale_indep (par degree : ℕ) (o1 o2 : GenOpts) (maxScale : ℚ)
    (fit : List ℚ) (pmAbs : ℚ) (h : o1.ensureBounded = o2.ensureBounded) :
    (erfGenerate par degree o1 maxScale fit pmAbs).map GenOut.coefList =
      (erfGenerate par degree o2 maxScale fit pmAbs).map GenOut.coefList := by
  unfold erfGenerate
  split
  · rfl
  · simp [Except.map, h]

theorem cosGenerate_returnScale_indep (o1 o2 : GenOpts) (J : List ℚ)
    (h1 : o1.ensureBounded = o2.ensureBounded) (h2 : o1.chebBasis = o2.chebBasis) :
    (cosGenerate o1 J).coefList = (cosGenerate o2 J).coefList := by
  rw [cosGenerate_eq, cosGenerate_eq]
  exact QSP.chebFinish_returnScale_indep o1 o2 _ _ h1 h2

theorem sinGenerate_returnScale_indep (o1 o2 : GenOpts) (J : List ℚ)
    (h1 : o1.ensureBounded = o2.ensureBounded) (h2 : o1.chebBasis = o2.chebBasis) :
    (sinGenerate o1 J).coefList = (sinGenerate o2 J).coefList :=
  QSP.chebFinish_returnScale_indep o1 o2 _ _ h1 h2

theorem invGenerate_returnScale_indep (o1 o2 : GenOpts) (G : List ℚ) (pmAbs : ℚ)
    (h1 : o1.ensureBounded = o2.ensureBounded) (h2 : o1.chebBasis = o2.chebBasis) :
    (invGenerate o1 G pmAbs).coefList = (invGenerate o2 G pmAbs).coefList :=
  QSP.chebFinish_returnScale_indep o1 o2 _ _ h1 h2

theorem invRectGenerate_returnScale_indep (rs1 rs2 : Bool) (cInv cRect : List ℚ) (s1 s2 : ℚ) :
    (invRectGenerate rs1 cInv cRect s1 s2).coefList =
      (invRectGenerate rs2 cInv cRect s1 s2).coefList := by
  rw [coefList_invRectGenerate, coefList_invRectGenerate]

/-! ### return shape -/

/-- the pair `(coefficients, scale)` is returned iff `ensure_bounded ∧ return_scale` -/
theorem erfGenerate_shape (par degree : ℕ) (o : GenOpts) (maxScale : ℚ) (fit : List ℚ)
    (pmAbs : ℚ) (out : GenOut) (h : erfGenerate par degree o maxScale fit pmAbs = .ok out) :
    (∃ c s, out = .withScale c s) ↔ (o.ensureBounded && o.returnScale) = true := by
  unfold erfGenerate at h
  split at h
  · cases h
  · injection h with h
    subst h
    exact wrapOut_withScale_iff o _ _

theorem cosGenerate_shape (o : GenOpts) (J : List ℚ) :
    (∃ c s, cosGenerate o J = .withScale c s) ↔ (o.ensureBounded && o.returnScale) = true := by
  rw [cosGenerate_eq]
  exact QSP.chebFinish_shape o _ _

theorem sinGenerate_shape (o : GenOpts) (J : List ℚ) :
    (∃ c s, sinGenerate o J = .withScale c s) ↔ (o.ensureBounded && o.returnScale) = true :=
  QSP.chebFinish_shape o _ _

theorem invGenerate_shape (o : GenOpts) (G : List ℚ) (pmAbs : ℚ) :
    (∃ c s, invGenerate o G pmAbs = .withScale c s) ↔
      (o.ensureBounded && o.returnScale) = true := QSP.chebFinish_shape o _ _

theorem invRectGenerate_shape (rs : Bool) (cInv cRect : List ℚ) (s1 s2 : ℚ) :
    (∃ c s, invRectGenerate rs cInv cRect s1 s2 = .withScale c s) ↔ rs = true := by
  unfold invRectGenerate
  cases rs <;> simp

/-! ### the returned scale is the factor actually applied

  Whenever a scale is returned (by the shape theorems: `ensure_bounded ∧ return_scale`), the
  returned coefficients are the coefficients of the run with `ensure_bounded = False`
  (same oracle values) multiplied by that scale, and the scale has its advertised value. -/

/-- mask and scaling commute -/
theorem parityPart_map_mul (q : ℕ) (s : ℚ) (l : List ℚ) (i : ℕ) :
    parityPart q (l.map (s * ·)) i = (parityPart q l i).map (s * ·) := by
  induction l generalizing i with
  | nil => rfl
  | cons c cs ih =>
    simp only [List.map_cons, parityPart, ih]
    split <;> simp

/-- `cheb2poly` is linear -/
theorem cheb2poly_map_mul {K : Type} [CommRing K] (kindU : Bool) (s : K) (c : List K) :
    cheb2poly kindU (c.map (s * ·)) = (cheb2poly kindU c).map (s * ·) :=
  QSP.cheb2poly_map_mul kindU s c

/-- erf family: scale `maxScale / |poly(pmax)|` -/
theorem erfGenerate_scale (par degree : ℕ) (o : GenOpts) (maxScale : ℚ) (fit : List ℚ)
    (pmAbs : ℚ) (c : List ℚ) (s : ℚ) (out' : GenOut)
    (h : erfGenerate par degree o maxScale fit pmAbs = .ok (.withScale c s))
    (h' : erfGenerate par degree { o with ensureBounded := false } maxScale fit pmAbs = .ok out') :
    c = out'.coefList.map (s * ·) ∧ s = (1 / pmAbs) * maxScale := by
  unfold erfGenerate at h h'
  split at h
  · cases h
  · rename_i hd
    rw [if_neg hd] at h'
    injection h with h
    injection h' with h'
    obtain ⟨⟨hb, -⟩, rfl, rfl⟩ := wrapOut_eq_withScale h
    subst h'
    rw [coefList_wrapOut, taylorSeries, taylorSeries, if_pos hb, if_neg Bool.false_ne_true,
      parityPart_map_mul]
    exact ⟨rfl, rfl⟩

/-- cosine, either basis: scale `1/2` -/
theorem cosGenerate_scale (o : GenOpts) (J : List ℚ) (c : List ℚ) (s : ℚ)
    (h : cosGenerate o J = .withScale c s) :
    c = (cosGenerate { o with ensureBounded := false } J).coefList.map (s * ·) ∧ s = 1 / 2 := by
  rw [cosGenerate_eq] at h ⊢
  exact QSP.chebFinish_scale o _ _ c s h

/-- sine, either basis: scale `1/2` -/
theorem sinGenerate_scale (o : GenOpts) (J : List ℚ) (c : List ℚ) (s : ℚ)
    (h : sinGenerate o J = .withScale c s) :
    c = (sinGenerate { o with ensureBounded := false } J).coefList.map (s * ·) ∧ s = 1 / 2 :=
  QSP.chebFinish_scale o _ _ c s h

/-- 1/x, either basis: scale `1 / (2 |g(pmin)|)` -/
theorem invGenerate_scale (o : GenOpts) (G : List ℚ) (pmAbs : ℚ) (c : List ℚ) (s : ℚ)
    (h : invGenerate o G pmAbs = .withScale c s) :
    c = (invGenerate { o with ensureBounded := false } G pmAbs).coefList.map (s * ·) ∧
      s = (1 / pmAbs) * (1 / 2) := QSP.chebFinish_scale o _ _ c s h

/-- 1/x · rect: the product of the two scales -/
theorem invRectGenerate_scale (rs : Bool) (cInv cRect : List ℚ) (s1 s2 : ℚ) (c : List ℚ) (s : ℚ)
    (h : invRectGenerate rs cInv cRect s1 s2 = .withScale c s) : s = s1 * s2 := by
  unfold invRectGenerate at h
  cases rs
  · simp at h
  · simp only [if_true] at h
    injection h with _ h2
    exact h2.symm

/-! ### both bases denote the same polynomial -/

theorem cosGenerate_bases (o : GenOpts) (J : List ℚ) :
    toPoly (cosGenerate { o with chebBasis := false } J).coefList =
      chebSum false (cosGenerate { o with chebBasis := true } J).coefList := by
  rw [cosGenerate_eq, cosGenerate_eq]
  exact QSP.chebFinish_bases o _ _

theorem sinGenerate_bases (o : GenOpts) (J : List ℚ) :
    toPoly (sinGenerate { o with chebBasis := false } J).coefList =
      chebSum false (sinGenerate { o with chebBasis := true } J).coefList :=
  QSP.chebFinish_bases o _ _

theorem invGenerate_bases (o : GenOpts) (G : List ℚ) (pmAbs : ℚ) :
    toPoly (invGenerate { o with chebBasis := false } G pmAbs).coefList =
      chebSum false (invGenerate { o with chebBasis := true } G pmAbs).coefList :=
  QSP.chebFinish_bases o _ _

/-- the final stage shared by the three: the monomial-basis list is `cheb2poly` of the
    Chebyshev-basis list (hence of the same length, C11) -/
theorem chebFinish_bases_list (o : GenOpts) (cheb : List ℚ) (scale : ℚ) :
    (chebFinish { o with chebBasis := false } cheb scale).coefList =
      cheb2poly false (chebFinish { o with chebBasis := true } cheb scale).coefList :=
  QSP.chebFinish_bases_list o cheb scale

/-! ### non-vacuity -/

/-- bounded with scale / bounded without scale / unbounded: `[0, 9/10, 0, 9/5] = 9/20 · [0,2,0,4]`
    and `9/20 = (1/2) · (9/10)` -/
example : erfGenerate 1 3 ⟨true, true, false⟩ (9 / 10) [1, 2, 3, 4] 2 =
      .ok (.withScale [0, 9 / 10, 0, 9 / 5] (9 / 20)) ∧
    erfGenerate 1 3 ⟨true, false, false⟩ (9 / 10) [1, 2, 3, 4] 2 =
      .ok (.coefs [0, 9 / 10, 0, 9 / 5]) ∧
    erfGenerate 1 3 ⟨false, true, false⟩ (9 / 10) [1, 2, 3, 4] 2 = .ok (.coefs [0, 2, 0, 4]) := by
  decide +kernel

/-- the hypotheses of `erfGenerate_scale` are met -/
example : ([0, 9 / 10, 0, 9 / 5] : List ℚ) = (GenOut.coefs [0, 2, 0, 4]).coefList.map (9 / 20 * ·) ∧
    (9 / 20 : ℚ) = (1 / 2) * (9 / 10) :=
  erfGenerate_scale 1 3 ⟨true, true, false⟩ (9 / 10) [1, 2, 3, 4] 2 _ _ _
    (by decide +kernel) (by decide +kernel)

/-- sine in the four option combinations that matter -/
example : sinGenerate ⟨false, true, false⟩ [1, 2] = .coefs [0, 14, 0, -16] ∧
    sinGenerate ⟨false, true, true⟩ [1, 2] = .coefs [0, 2, 0, -4] ∧
    sinGenerate ⟨true, true, false⟩ [1, 2] = .withScale [0, 7, 0, -8] (1 / 2) ∧
    sinGenerate ⟨true, true, true⟩ [1, 2] = .withScale [0, 1, 0, -2] (1 / 2) := by
  decide +kernel

example : cosGenerate ⟨true, true, false⟩ [1, 2, 3] =
      .withScale [11 / 2, 0, -28, 0, 24] (1 / 2) ∧
    cosGenerate ⟨true, true, true⟩ [1, 2, 3] = .withScale [1 / 2, 0, -2, 0, 3] (1 / 2) ∧
    cosGenerate ⟨true, true, true⟩ [] = .withScale [] (1 / 2) := by
  decide +kernel

example : invGenerate ⟨true, true, true⟩ [1, 2] 4 = .withScale [0, 1 / 2, 0, -1] (1 / 8) ∧
    invGenerate ⟨true, true, false⟩ [1, 2] 4 = .withScale [0, 7 / 2, 0, -4] (1 / 8) ∧
    invGenerate ⟨false, true, false⟩ [1, 2] 4 = .coefs [0, 28, 0, -32] := by
  decide +kernel

example : invRectGenerate true [0, 1, 0, 2] [1, 0, 3] 2 3 = .withScale [0, 1, 0, 5, 0, 6] 6 ∧
    invRectGenerate false [0, 1, 0, 2] [1, 0, 3] 2 3 = .coefs [0, 1, 0, 5, 0, 6] ∧
    invRectGenerate true [] [1, 0, 3] 2 3 = .withScale [] 6 := by
  decide +kernel

end QSP.C17
