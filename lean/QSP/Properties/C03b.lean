/-
  Property C03b — feasibility of the completion: for a real coefficient list `F` (denoting
  `f = denL F d`, powers `d, d+2, …`; the target uses `d = -n`) whose 1-norm is below one,
  `1 - F · F~` (`F~ = invert f`, i.e. `T ↦ T⁻¹`) is real and strictly positive on the unit
  circle, so it has no root there: the root pairs `{r, 1/r}` of the completion step
  (`pyqsp/completion.py`) never degenerate to a point of the circle.

  `evalC θ` (evaluation at `e^{iθ}`), `l1R` and the bound of `|f|` on the circle by the 1-norm are
  in `QSP/Proofs/EvalC.lean`.
-/
import QSP.Proofs.EvalC
import Mathlib.Analysis.SpecialFunctions.Complex.Arg
import Mathlib.Tactic.NormNum
open LaurentPolynomial
namespace QSP.C03b
open QSP

/-- on the circle `1 - f f~` takes the real value `1 - |f(e^{iθ})|²` (any `f`) -/
theorem feasible_eval (θ : ℝ) (f : ℝ[T;T⁻¹]) :
    evalC θ (1 - f * invert f) = ((1 - ‖evalC θ f‖ ^ 2 : ℝ) : ℂ) := by
  rw [map_sub, map_one, map_mul, evalC_invert_conj, Complex.mul_conj, Complex.normSq_eq_norm_sq]
  push_cast
  rfl

/-- with 1-norm below one that value is strictly positive -/
theorem feasible_pos (F : List ℝ) (d : ℤ) (h : l1R F < 1) (θ : ℝ) :
    0 < 1 - ‖evalC θ (denL F d)‖ ^ 2 :=
  sub_pos.mpr (pow_lt_one₀ (norm_nonneg _) ((norm_evalC_denL_le θ F d).trans_lt h) two_ne_zero)

/-- hence `1 - F F~` has no root `e^{iθ}` -/
theorem feasible_no_unit_roots (F : List ℝ) (d : ℤ) (h : l1R F < 1) (θ : ℝ) :
    evalC θ (1 - denL F d * invert (denL F d)) ≠ 0 := by
  rw [feasible_eval]
  exact_mod_cast (feasible_pos F d h θ).ne'

/-- the three statements together, for the lowest power `-n` used by the target -/
theorem feasible_all (F : List ℝ) (n : ℕ) (h : l1R F < 1) (θ : ℝ) :
    evalC θ (1 - denL F (-(n : ℤ)) * invert (denL F (-(n : ℤ))))
        = ((1 - ‖evalC θ (denL F (-(n : ℤ)))‖ ^ 2 : ℝ) : ℂ) ∧
      0 < 1 - ‖evalC θ (denL F (-(n : ℤ)))‖ ^ 2 ∧
      evalC θ (1 - denL F (-(n : ℤ)) * invert (denL F (-(n : ℤ)))) ≠ 0 :=
  ⟨feasible_eval θ _, feasible_pos F _ h θ, feasible_no_unit_roots F _ h θ⟩

/-- no root at any complex number of modulus one (not only those written as `e^{iθ}`) -/
theorem feasible_no_unit_roots_units (F : List ℝ) (d : ℤ) (h : l1R F < 1) (u : ℂˣ)
    (hu : ‖(u : ℂ)‖ = 1) :
    LaurentPolynomial.eval₂ (algebraMap ℝ ℂ) u (1 - denL F d * invert (denL F d)) ≠ 0 := by
  obtain ⟨θ, hθ⟩ := (Complex.norm_eq_one_iff (u : ℂ)).mp hu
  obtain rfl : circ θ = u := Units.ext hθ
  exact feasible_no_unit_roots F d h θ

/-- rational coefficients, with the model's 1-norm `l1` -/
theorem feasible_no_unit_roots_rat (cs : List ℚ) (d : ℤ) (h : l1 cs < 1) (θ : ℝ) :
    evalC θ (1 - denL (cs.map (fun q : ℚ => (q : ℝ))) d
        * invert (denL (cs.map (fun q : ℚ => (q : ℝ))) d)) ≠ 0 :=
  feasible_no_unit_roots _ d (by rw [← l1_cast]; exact_mod_cast h) θ

theorem feasible_pos_rat (cs : List ℚ) (d : ℤ) (h : l1 cs < 1) (θ : ℝ) :
    0 < 1 - ‖evalC θ (denL (cs.map (fun q : ℚ => (q : ℝ))) d)‖ ^ 2 :=
  feasible_pos _ d (by rw [← l1_cast]; exact_mod_cast h) θ

/-! ### non-vacuity -/

/-- the hypothesis is met by a concrete list -/
example : l1R [1 / 4, 0, 1 / 2] < 1 := by norm_num [l1R, abs_of_pos]

/-- and the theorem applies to it: `1 - F F~` for `F = T⁻²/4 + T²/2` has no root on the circle -/
example (θ : ℝ) :
    evalC θ (1 - denL [(1 / 4 : ℝ), 0, 1 / 2] (-2) * invert (denL [(1 / 4 : ℝ), 0, 1 / 2] (-2)))
      ≠ 0 :=
  feasible_no_unit_roots _ _ (by norm_num [l1R, abs_of_pos]) θ

/-- the rational version on the same list -/
example (θ : ℝ) :
    evalC θ (1 - denL ([(1 / 4 : ℚ), 0, 1 / 2].map (fun q : ℚ => (q : ℝ))) (-2)
        * invert (denL ([(1 / 4 : ℚ), 0, 1 / 2].map (fun q : ℚ => (q : ℝ))) (-2))) ≠ 0 :=
  feasible_no_unit_roots_rat _ _ (by decide +kernel) θ

/-- the bound `l1R F < 1` cannot be dropped to `≤ 1`: for `F = [1]`, `d = 0` (`f = 1`) the
    polynomial `1 - F F~` is zero, so every point of the circle is a root -/
example (θ : ℝ) : evalC θ (1 - denL [(1 : ℝ)] 0 * invert (denL [(1 : ℝ)] 0)) = 0 := by
  simp [denL]

end QSP.C03b
