/-
  Property C06 — the re-derived phases `phis' = angseq(LAlg.unitary_from_angles(phis))`
  (`pyqsp/decomposition.py`, `pyqsp/LPoly.py`) rebuild the unitary of `phis` and equal them up to
  the sign gauge: every `φ'_k − φ_k` is a multiple of `π` (within `tolG`, measured by the sine),
  and the number of odd multiples is even.  The harness runs the executable validator `validC06`
  (`QSP/Model/Validators.lean`) on each such pair; the theorems here say what its acceptance means.

  `Ucirc θ φs = R(φ₀) · (W(θ) R(φ₁)) ⋯ (W(θ) R(φ_n))` and the proofs are in
  `QSP/Proofs/BallSound.lean`.
-/
import QSP.Proofs.BallSound
open Matrix Complex
open scoped Matrix.Norms.L2Operator
namespace QSP.C06
open QSP

/-- acceptance by `validC06` means: equal lengths; the two products agree within `tolE` in
    spectral norm at every point of the circle; every phase difference has `|sin| ≤ tolG` and a
    non-vanishing cosine; and the product of the signs of the cosines is `+1` -/
theorem validC06_sound (phis phis' : List ℚ) (tolE tolG : ℚ) (bits : ℕ) (v : VOut)
    (h : validC06 phis phis' tolE tolG bits = .ok v) (hv : v.ok = true) :
    phis'.length = phis.length ∧
    (∀ θ : ℝ, ‖Ucirc θ (phis'.map (fun q : ℚ => (q : ℝ)))
        - Ucirc θ (phis.map (fun q : ℚ => (q : ℝ)))‖ ≤ (tolE : ℝ)) ∧
    (∀ k < phis.length,
      |Real.sin (((phis'.getD k 0 : ℚ) : ℝ) - ((phis.getD k 0 : ℚ) : ℝ))| ≤ (tolG : ℝ) ∧
      Real.cos (((phis'.getD k 0 : ℚ) : ℝ) - ((phis.getD k 0 : ℚ) : ℝ)) ≠ 0) ∧
    (List.zipWith (fun a a' : ℚ => SignType.sign (Real.cos (((a' : ℚ) : ℝ) - ((a : ℚ) : ℝ))))
      phis phis').prod = 1 := QSP.validC06_sound phis phis' tolE tolG bits v h hv

/-- the last clause as a count: the number of positions `k` with `cos(φ'_k − φ_k) < 0` (odd
    multiples of `π`) is even -/
theorem validC06_even_flips (phis phis' : List ℚ) (tolE tolG : ℚ) (bits : ℕ) (v : VOut)
    (h : validC06 phis phis' tolE tolG bits = .ok v) (hv : v.ok = true) :
    Even ((List.zipWith (fun a a' : ℚ => Real.cos (((a' : ℚ) : ℝ) - ((a : ℚ) : ℝ)))
      phis phis').countP (fun x : ℝ => decide (x < 0))) := by
  apply even_countP_neg_of_sign_prod
  rw [List.map_zipWith]
  exact (validC06_sound phis phis' tolE tolG bits v h hv).2.2.2

/-- on the upper half circle `Ucirc` is the ordered product of the definition (Wz convention) -/
theorem Ucirc_eq_Udef (θ : ℝ) (hθ : 0 ≤ Real.sin θ) (φs : List ℝ) :
    Ucirc θ φs = Udef .Wz (Real.cos θ) φs := QSP.Ucirc_eq_Udef θ hθ φs

/-! ### non-vacuity -/

/-- an accepting run, kernel-checked: both phases shifted by `355/113 ≈ π` -/
theorem validC06_accepted :
    ∃ v, validC06 [1 / 3, 1 / 4] [1 / 3 + 355 / 113, 1 / 4 + 355 / 113] (1 / 100) (1 / 1000) 12
      = .ok v ∧ v.ok = true := by
  have h : (validC06 [1 / 3, 1 / 4] [1 / 3 + 355 / 113, 1 / 4 + 355 / 113] (1 / 100) (1 / 1000)
      12).map (·.ok) = .ok true := by decide +kernel
  exact ok_of_map_eq h

/-- kernel-checked runs: both phases shifted by `355/113 ≈ π` (two sign flips) are accepted;
    a single flip, or a shift by `1/10`, is refused -/
example : (validC06 [1 / 3, 1 / 4] [1 / 3 + 355 / 113, 1 / 4 + 355 / 113] (1 / 100) (1 / 1000)
      12).map (·.ok) = .ok true ∧
    (validC06 [1 / 3, 1 / 4] [1 / 3 + 355 / 113, 1 / 4] (1 / 100) (1 / 1000) 12).map (·.ok)
      = .ok false ∧
    (validC06 [1 / 3, 1 / 4] [1 / 3 + 1 / 10, 1 / 4] (1 / 100) (1 / 1000) 12).map (·.ok)
      = .ok false := by
  obtain ⟨v, hr, hv⟩ := validC06_accepted
  exact ⟨by rw [hr]; exact congrArg Except.ok hv, by decide +kernel⟩

/-- the theorem applies to the accepted run: the two products agree within `1/100` on the
    whole circle -/
example : ∀ θ : ℝ,
    ‖Ucirc θ ([1 / 3 + 355 / 113, 1 / 4 + 355 / 113].map (fun q : ℚ => (q : ℝ)))
      - Ucirc θ ([1 / 3, 1 / 4].map (fun q : ℚ => (q : ℝ)))‖ ≤ ((1 / 100 : ℚ) : ℝ) := by
  obtain ⟨v, hr, hv⟩ := validC06_accepted
  exact (validC06_sound _ _ _ _ _ v hr hv).2.1

end QSP.C06
