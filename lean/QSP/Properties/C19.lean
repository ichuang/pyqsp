/-
  Property C19 — infeasible or malformed requests fail with documented errors.

  The decision logic of the entry points, stated outright: for EVERY combination of option
  strings and stage outcomes the phase finder either returns phases that passed its
  self-check, hands over to the tensorflow method, or ends in one of the documented
  exception classes — never in another one.  (The purity clause of C19 is a property of
  the Python runtime; the model is pure by construction and that clause is decided by the
  correspondence run alone — see DESIGN.md.)
-/
import QSP.Model.Pipeline
namespace QSP.C19
open QSP

/-- the exception classes the property allows a call to end in (`other` is not among them) -/
def documented (e : ErrClass) : Prop :=
  e = .completion ∨ e = .angleFinding ∨ e = .response ∨ e = .value

/-- Every outcome of the phase finder is `tf`, one of three exception classes, or `phases` after
    both the completion and the self-check succeeded: a predicate that holds in these five cases
    holds of `qspPhases`.  (The option strings only select a branch; `iteInduction` walks the
    branches without `split`, which is slow on string conditions.) -/
theorem qspPhases_ind {P : QspOut → Prop} (so : String) (meas : Option String) (method : String)
    (st : Stages) (htf : P .tf) (hv : P (.err .value)) (ha : P (.err .angleFinding))
    (hc : P (.err .completion))
    (hp : st.completionOK = true → st.verifyOK = true → P .phases) :
    P (qspPhases so meas method st) := by
  have ite {c : Prop} [Decidable c] {a b : QspOut} (h1 : P a) (h2 : P b) :
      P (if c then a else b) := iteInduction (fun _ => h1) (fun _ => h2)
  have hB : P (if !st.completionOK then .err .completion
      else if !st.verifyOK then .err .angleFinding else .phases) := by
    cases hc' : st.completionOK
    · exact hc
    · cases hv' : st.verifyOK
      · exact ha
      · exact hp hc' hv'
  exact ite (ite htf hv) (ite hv (ite (ite ha hB) (ite hB hv)))

/-- every error path of the phase finder is a documented class -/
theorem qsp_error_classes (so : String) (meas : Option String) (method : String) (st : Stages)
    (e : ErrClass) (h : qspPhases so meas method st = .err e) : documented e := by
  revert h
  refine qspPhases_ind (P := fun o => o = .err e → documented e) so meas method st nofun ?_ ?_ ?_
    (fun _ _ => nofun) <;> rintro ⟨⟩
  · exact .inr (.inr (.inr rfl))
  · exact .inr (.inl rfl)
  · exact .inl rfl

/-- phases are returned only through the self-check branch -/
theorem returns_only_verified (so : String) (meas : Option String) (method : String) (st : Stages)
    (h : qspPhases so meas method st = .phases) : st.verifyOK = true ∧ st.completionOK = true := by
  revert h
  exact qspPhases_ind (P := fun o => o = .phases → _) so meas method st nofun nofun nofun nofun
    fun hc hv _ => ⟨hv, hc⟩

/-- a mixed-parity polynomial in the default models is refused with AngleFindingError -/
theorem mixed_parity_refused (so : String) (h : so = "Wx" ∨ so = "Wz") (st : Stages)
    (hp : st.parityOK = false) : qspPhases so none "laurent" st = .err .angleFinding := by
  rcases h with rfl | rfl <;> simp [qspPhases, hp]

/-- an unknown method is a ValueError; so are an unknown signal operator and an unknown measurement
    (the next two theorems) -/
theorem unknown_method (so : String) (meas : Option String) (method : String) (st : Stages)
    (h1 : method ≠ "tf") (h2 : method ≠ "laurent") : qspPhases so meas method st = .err .value := by
  simp [qspPhases, h1, h2]

theorem unknown_signal_operator (so : String) (meas : Option String) (st : Stages)
    (h1 : so ≠ "Wx") (h2 : so ≠ "Wz") : qspPhases so meas "laurent" st = .err .value := by
  simp [qspPhases, h1, h2]

theorem unknown_measurement (so : String) (m : String) (st : Stages) (h : so = "Wx" ∨ so = "Wz")
    (h1 : m ≠ "x") (h2 : m ≠ "z") : qspPhases so (some m) "laurent" st = .err .value := by
  rcases h with rfl | rfl <;> simp [qspPhases, h1, h2]

/-- the outcomes of `completionDispatch`, in the same way -/
theorem completionDispatch_ind {P : Except ErrClass String → Prop} (ct : String) (a b : Bool)
    (he : P (.error .completion)) (hok : a = true → b = true → ∀ r, P (.ok r)) :
    P (completionDispatch ct a b) := by
  have ite {c : Prop} [Decidable c] {x y : Except ErrClass String} (h1 : P x) (h2 : P y) :
      P (if c then x else y) := iteInduction (fun _ => h1) (fun _ => h2)
  have hr (r : String) : P (if !a then .error .completion
      else if !b then .error .completion else .ok r) := by
    cases ha : a
    · exact he
    · cases hb : b
      · exact he
      · exact hok ha hb r
  exact ite (hr _) (ite (hr _) he)

/-- completion: an unknown `coef_type`, a failed stage or a failed post-condition all end in
    CompletionError; it returns only when the post-condition holds -/
theorem completion_error_class (ct : String) (a b : Bool) (e : ErrClass)
    (h : completionDispatch ct a b = .error e) : e = .completion := by
  revert h
  exact completionDispatch_ind (P := fun o => o = .error e → _) ct a b (by rintro ⟨⟩; rfl)
    fun _ _ _ => nofun

theorem completion_returns_checked (ct : String) (a b : Bool) (r : String)
    (h : completionDispatch ct a b = .ok r) : a = true ∧ b = true := by
  revert h
  exact completionDispatch_ind (P := fun o => o = .ok r → _) ct a b nofun fun ha hb _ _ => ⟨ha, hb⟩

/-- non-vacuity: concrete calls -/
example : qspPhases "Wx" none "laurent" ⟨true, true, true⟩ = .phases := by decide +kernel
example : qspPhases "Wx" (some "z") "laurent" ⟨true, false, true⟩ = .err .completion := by decide +kernel
example : qspPhases "Wy" none "laurent" ⟨true, true, true⟩ = .err .value := by decide +kernel
example : completionDispatch "Q" true true = .error .completion := by simp [completionDispatch]

end QSP.C19
