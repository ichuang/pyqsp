/-
  Properties C04 / C03 — the EXECUTABLE `completeFG` (glue of `_fg_completion`) end to end.

  `z = w²`; `G(w) = w^{-deg} g(z)`, `G~(w) = w^{-deg} grev(z)`, `grev = ∏ (1 - s z) = Grev S`,
  `1 - F F~ = w^{-2 deg} poly(z)`, `norm = poly[-1]`.  The root finder's specification
  `poly = norm · ∏_{s ∈ S} (z - s)(z - 1/s)` (`recipProd S`) is symmetric in `s ↔ 1/s`: it is
  the same hypothesis for every seed vector (`recipProd_flipRoots` for an abstract selection,
  `recipProd_selRoots` for the roots the executable selects), and
  `ratio · g · grev = poly` is `F F~ + G G~ = 1` with `G = sqrt(ratio) · g`.

  Proofs: `QSP/Proofs/FGComplete.lean` (`Gpoly`, `Grev`, `recipProd`, `flipRoots`:
  `QSP/Proofs/Completion.lean`).  `completeFG_sound` (end of file) has `completeFG … = some …` as
  its only hypothesis: `factorsFG` is characterised in closed form (`factorsFG_eq`,
  `factorsFG_none`).  `completeFG_sound_partial` takes the denotation of the factor list as a
  hypothesis instead.

  In the examples `1 / 100000000` is the threshold of the selection loop of `_fg_completion`
  (`np.imag(i) > -1e-8`).
-/
import QSP.Proofs.FGComplete
open Polynomial
namespace QSP.C04b
open QSP
variable {K : Type} [Field K]

theorem Gpoly_coeff_zero (S : List K) : (Gpoly S).coeff 0 = (S.map fun s => -s).prod :=
  QSP.Gpoly_coeff_zero S

/-- `g · grev = g(0) · ∏ (z - s)(z - 1/s)` -/
theorem Gpoly_mul_Grev (S : List K) (hS : ∀ s ∈ S, s ≠ 0) :
    Gpoly S * Grev S = C ((S.map fun s => -s).prod) * recipProd S := QSP.Gpoly_mul_Grev S hS

/-- the specification is the same for every seed -/
theorem recipProd_flipRoots (S : List K) (seed : List Bool) :
    recipProd (flipRoots S seed) = recipProd S := QSP.recipProd_flipRoots S seed

/-- normalised completion for any non-zero selection -/
theorem fg_normalised (S : List K) (hS : ∀ s ∈ S, s ≠ 0) (norm : K) :
    C (norm / (Gpoly S).coeff 0) * (Gpoly S * Grev S) = C norm * recipProd S :=
  QSP.fg_normalised S hS norm

/-- **every seed**: the selection `flipRoots S seed` normalised by its own `g(0)` completes the
    specification stated for the unflipped roots `S` -/
theorem fg_normalised_any_seed (S : List K) (seed : List Bool) (hS : ∀ s ∈ S, s ≠ 0) (norm : K) :
    C (norm / (Gpoly (flipRoots S seed)).coeff 0) *
      (Gpoly (flipRoots S seed) * Grev (flipRoots S seed)) = C norm * recipProd S := by
  rw [QSP.fg_normalised _ (flipRoots_ne_zero S seed hS), QSP.recipProd_flipRoots]

/-- the exact product of the factor list denotes the product of the factors -/
theorem prodFactors_den (fs : List (List ℚ)) :
    toPolyR (prodFactors fs) = (fs.map toPolyR).prod := QSP.toPolyR_prodFactors fs

theorem cplxFactor_den (r : CQ) :
    toPolyR [r.1 * r.1 + r.2 * r.2, -2 * r.1, 1]
      = (X - C (toC r)) * (X - C ((starRingEnd ℂ) (toC r))) := QSP.toPolyR_cplxFactor r

theorem realFactor_den (r : ℚ) : toPolyR [-r, 1] = X - C ((r : ℚ) : ℂ) :=
  QSP.toPolyR_realFactor r

/-- the seed bit replaces the root by its reciprocal -/
theorem toC_cqInv (r : CQ) : toC (cqInv r) = (toC r)⁻¹ := QSP.toC_cqInv r

/-- what `completeFG` returns -/
theorem completeFG_eq (thr : ℚ) (roots : List CQ) (seed : List Bool) (norm : ℚ)
    (g : List ℚ) (ratio : ℚ) (h : completeFG thr roots seed norm = some (g, ratio)) :
    ∃ fs, factorsFG (classifyRoots thr roots).1 (classifyRoots thr roots).2 seed = some fs ∧
      g = prodFactors fs ∧ g.headD 0 ≠ 0 ∧ ratio = norm / g.headD 0 :=
  QSP.completeFG_eq thr roots seed norm g ratio h

theorem completeFG_sound_partial (thr : ℚ) (roots : List CQ) (seed : List Bool) (norm : ℚ)
    (g : List ℚ) (ratio : ℚ) (h : completeFG thr roots seed norm = some (g, ratio))
    (S : List ℂ) (hS : ∀ s ∈ S, s ≠ 0)
    (hfs : ∀ fs, factorsFG (classifyRoots thr roots).1 (classifyRoots thr roots).2 seed = some fs →
      (fs.map toPolyR).prod = Gpoly S)
    (poly : ℂ[X]) (hspec : poly = C (norm : ℂ) * recipProd S) :
    toPolyR g = Gpoly S ∧ C (ratio : ℂ) * (toPolyR g * Grev S) = poly :=
  QSP.completeFG_sound_partial thr roots seed norm g ratio h S hS hfs poly hspec

/-! ### non-vacuity: `F = (7/18) w⁻¹ + (5/9) w`, `1 - F F~ = w⁻² · (-35/162)(z - 1/2)(z - 2)` -/

/-- both seeds: inside root `1/2` (ratio `35/81`) or its reciprocal `2` (ratio `35/324`);
    a missing seed bit is the code's error -/
example :
    completeFG (1 / 100000000) [(2, 0), (1 / 2, 0)] [false] (-35 / 162)
      = some ([-1 / 2, 1], 35 / 81) ∧
    completeFG (1 / 100000000) [(2, 0), (1 / 2, 0)] [true] (-35 / 162)
      = some ([-2, 1], 35 / 324) ∧
    completeFG (1 / 100000000) [(2, 0), (1 / 2, 0)] [] (-35 / 162) = none := by decide +kernel

/-- … and for both `F F~ + G G~ = 1` on the coefficient lists (powers `w⁻², w⁰, w²`) -/
example :
    let F : List ℚ := [7 / 18, 5 / 9]
    addL (convL F F.reverse) (([-1 / 2, 1] : List ℚ).map (35 / 81 * ·) |> fun g =>
        convL g ([-1 / 2, 1] : List ℚ).reverse) = [0, 1, 0] ∧
    addL (convL F F.reverse) (([-2, 1] : List ℚ).map (35 / 324 * ·) |> fun g =>
        convL g ([-2, 1] : List ℚ).reverse) = [0, 1, 0] := by decide +kernel

/-- a complex pair inside the circle: factor `[|r|², -2 Re r, 1]`, and flipped -/
example :
    completeFG (1 / 100000000) [(1 / 2, 1 / 2), (1 / 2, -1 / 2), (1, 1), (1, -1)] [false] 3
      = some ([1 / 2, -1, 1], 6) ∧
    completeFG (1 / 100000000) [(1 / 2, 1 / 2), (1 / 2, -1 / 2), (1, 1), (1, -1)] [true] 3
      = some ([2, -2, 1], 3 / 2) := by decide +kernel

/-- the hypotheses of `completeFG_sound_partial` are met on the first instance -/
example : C ((35 / 81 : ℚ) : ℂ) * (toPolyR [-1 / 2, 1] * Grev [((1 / 2 : ℚ) : ℂ)])
    = C ((-35 / 162 : ℚ) : ℂ) * recipProd [((1 / 2 : ℚ) : ℂ)] := by
  refine (completeFG_sound_partial (1 / 100000000) [(2, 0), (1 / 2, 0)] [false] (-35 / 162)
    [-1 / 2, 1] (35 / 81) (by decide +kernel) [((1 / 2 : ℚ) : ℂ)] ?_ ?_ _ rfl).2
  · intro s hs
    simp only [List.mem_cons, List.not_mem_nil, or_false] at hs
    rw [hs]; norm_num
  · intro fs hfs
    have e : factorsFG (classifyRoots (1 / 100000000) [(2, 0), (1 / 2, 0)]).1
        (classifyRoots (1 / 100000000) [(2, 0), (1 / 2, 0)]).2 [false] = some [[-(1 / 2), 1]] := by
      decide +kernel
    rw [e] at hfs
    obtain rfl := Option.some.inj hfs
    simp only [List.map_cons, List.map_nil, List.prod_cons, List.prod_nil, mul_one,
      realFactor_den, Gpoly]

/-! ### `factorsFG` in closed form and `completeFG` end to end (no side hypotheses) -/

theorem mapM_some {α β : Type} (f : α → Option β) (g : α → β) (l : List α)
    (h : ∀ a ∈ l, f a = some (g a)) : l.mapM f = some (l.map g) := QSP.mapM_some f g l h

/-- every needed bit present: the factor list is
    `[|r'|², -2 Re r', 1]` (`r'` = root `i` or its reciprocal by bit `i`) for the complex roots,
    then `[-r', 1]` (bit `i + #complex`) for the real ones -/
theorem factorsFG_eq (im : List CQ) (re : List ℚ) (seed : List Bool)
    (hseed : im.length + re.length ≤ seed.length) :
    factorsFG im re seed
      = some ((List.range im.length).map (facI im seed) ++
          (List.range re.length).map (facR im re seed)) := QSP.factorsFG_eq im re seed hseed

/-- a missing bit: the code's `CompletionError` for a short seed -/
theorem factorsFG_none (im : List CQ) (re : List ℚ) (seed : List Bool)
    (hseed : seed.length < im.length + re.length) : factorsFG im re seed = none :=
  QSP.factorsFG_none im re seed hseed

theorem factorsFG_some_iff (im : List CQ) (re : List ℚ) (seed : List Bool) :
    (factorsFG im re seed).isSome ↔ im.length + re.length ≤ seed.length :=
  QSP.factorsFG_some_iff im re seed

/-- the factor list denotes `∏ (z - s)` over the selected roots (`r'`, `conj r'` for every
    complex root, `r'` for every real one) -/
theorem factors_den (im : List CQ) (re : List ℚ) (seed : List Bool) :
    (((List.range im.length).map (facI im seed) ++
        (List.range re.length).map (facR im re seed)).map toPolyR).prod
      = Gpoly (selRoots im re seed) := QSP.factors_den im re seed

/-- the specification `∏ (z - s)(z - 1/s)` does not see the seed -/
theorem recipProd_selRoots (im : List CQ) (re : List ℚ) (seed : List Bool) :
    recipProd (selRoots im re seed) = recipProd (selRoots im re []) :=
  QSP.recipProd_selRoots im re seed

/-- **C04 / C03 for the executable, every seed**: if `completeFG` returns `(g, ratio)` then the
    seed was long enough, `g = ∏ (z - s)` over the selected roots, and
    `ratio · g · grev = norm · ∏ (z - s)(z - 1/s)` over the UNFLIPPED inside roots: whenever the
    right-hand side is `w^{2 deg} (1 - F F~)` (the root finder's specification),
    `G = sqrt(ratio) · g` satisfies `F F~ + G G~ = 1` (a real `G` needs `0 ≤ ratio`, which is not
    stated: the model returns negative ratios on root lists that are not a root finder's). -/
theorem completeFG_sound (thr : ℚ) (roots : List CQ) (seed : List Bool) (norm : ℚ)
    (g : List ℚ) (ratio : ℚ) (h : completeFG thr roots seed norm = some (g, ratio)) :
    (classifyRoots thr roots).1.length + (classifyRoots thr roots).2.length ≤ seed.length ∧
    toPolyR g = Gpoly (selRoots (classifyRoots thr roots).1 (classifyRoots thr roots).2 seed) ∧
    C (ratio : ℂ) * (toPolyR g *
        Grev (selRoots (classifyRoots thr roots).1 (classifyRoots thr roots).2 seed))
      = C (norm : ℂ) *
        recipProd (selRoots (classifyRoots thr roots).1 (classifyRoots thr roots).2 []) :=
  QSP.completeFG_sound thr roots seed norm g ratio h

/-- the closed form on an instance with one complex pair and one real root, mixed seed -/
example :
    factorsFG [(1 / 2, 1 / 2)] [1 / 3] [true, false]
      = some ((List.range 1).map (facI [(1 / 2, 1 / 2)] [true, false]) ++
          (List.range 1).map (facR [(1 / 2, 1 / 2)] [1 / 3] [true, false])) ∧
    factorsFG [(1 / 2, 1 / 2)] [1 / 3] [true, false] = some [[2, -2, 1], [-1 / 3, 1]] ∧
    factorsFG [(1 / 2, 1 / 2)] [1 / 3] [true] = none := by decide +kernel

/-- `completeFG_sound` applies to the run of the first example with the flipped seed -/
example :
    C ((35 / 324 : ℚ) : ℂ) * (toPolyR [-2, 1] *
        Grev (selRoots (classifyRoots (1 / 100000000) [(2, 0), (1 / 2, 0)]).1
          (classifyRoots (1 / 100000000) [(2, 0), (1 / 2, 0)]).2 [true]))
      = C ((-35 / 162 : ℚ) : ℂ) *
        recipProd (selRoots (classifyRoots (1 / 100000000) [(2, 0), (1 / 2, 0)]).1
          (classifyRoots (1 / 100000000) [(2, 0), (1 / 2, 0)]).2 []) :=
  (completeFG_sound (1 / 100000000) [(2, 0), (1 / 2, 0)] [true] (-35 / 162) [-2, 1] (35 / 324)
    (by decide +kernel)).2.2

end QSP.C04b
