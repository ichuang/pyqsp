/-
  Property C05 — the element `F + G·iX` that `completion_from_root_finding(P, coef_type="P")`
  (`completion.py`) returns for a complex polynomial `P = pre + i pim` is unitary within `tol`
  (coefficient-wise), and the Hadamard-conjugated corner of `[[F(θ), iG(θ)], [iG(−θ), F(−θ)]]` equals
  `P(cos θ)` within `1e-9 ‖P‖₁` at EVERY `θ`.  Proved: acceptance by the executable validator
  `validC05` (`QSP/Model/Validators.lean`) implies this; the harness applies the validator to what
  the library returns.

  The proof of `validC05_sound` and `cnorm1 pre pim = Σ_k |pre_k + i pim_k|` are in
  `QSP/Proofs/ValidCore.lean`, `polyAt` in `QSP/Proofs/Series.lean`, `evQ p θ` (the value at `e^{iθ}`)
  in `QSP/Proofs/AnglesEval.lean`.
-/
import QSP.Proofs.ValidCore
open LaurentPolynomial Complex
namespace QSP.C05
open QSP

/-- acceptance by `validC05` means: the conclusion of C04 for `(F, G)`, and the corner
    `(F(θ) + F(−θ))/2 + i (G(θ) + G(−θ))/2` is within `1e-9 ‖P‖₁` of `P(cos θ)` for EVERY `θ` -/
theorem validC05_sound (pre pim F G : List ℚ) (tol : ℚ) (depth : ℕ) (v : VOut)
    (h : validC05 pre pim F G tol depth = .ok v) (hv : v.ok = true) :
    (G.length = F.length ∧ ∀ k : ℤ,
      |(denL F (-(F.length : ℤ) + 1) * invert (denL F (-(F.length : ℤ) + 1)) +
        denL G (-(G.length : ℤ) + 1) * invert (denL G (-(G.length : ℤ) + 1)) - 1).coeff k| < tol) ∧
    ∀ θ : ℝ,
      ‖((evQ (LP.mk' F (-(F.length : ℤ) + 1)) θ + evQ (LP.mk' F (-(F.length : ℤ) + 1)) (-θ)) / 2 +
          I * ((evQ (LP.mk' G (-(G.length : ℤ) + 1)) θ +
            evQ (LP.mk' G (-(G.length : ℤ) + 1)) (-θ)) / 2)) -
        (((polyAt pre (Real.cos θ) : ℝ) : ℂ) + I * ((polyAt pim (Real.cos θ) : ℝ) : ℂ))‖
      ≤ (1e-9 : ℝ) * cnorm1 pre pim := QSP.validC05_sound pre pim F G tol depth v h hv

/-- the summands of `cnorm1` are the moduli `|pre_k + i pim_k|` -/
theorem cnorm1_cons (r i : ℚ) (rs is : List ℚ) :
    cnorm1 (r :: rs) (i :: is) = ‖((r : ℝ) : ℂ) + I * ((i : ℝ) : ℂ)‖ + cnorm1 rs is := by
  rw [cnorm1, mul_comm, Complex.norm_add_mul_I]

/-! ### non-vacuity -/

/-- a kernel-checked accepting run: `F = cos θ`, `G = i sin θ` (as Laurent vectors) complete
    `P(x) = x` -/
example : (validC05 [0, 1] [0, 0] [1 / 2, 1 / 2] [-1 / 2, 1 / 2] (1 / 100) 20).map
    (fun v => (v.ok, v.stage)) = .ok (true, 1) := by decide +kernel

/-- … and the same pair does not complete `P(x) = x / 2`, nor (unitarity failing) does a
    non-unitary pair complete `P(x) = x` -/
example : (validC05 [0, 1 / 2] [0, 0] [1 / 2, 1 / 2] [-1 / 2, 1 / 2] (1 / 100) 20).map (·.ok)
      = .ok false ∧
    (validC05 [0, 1] [0, 0] [1 / 2, 1 / 2] [-1 / 2, 3 / 5] (1 / 100) 20).map (·.ok)
      = .ok false := by decide +kernel

end QSP.C05
