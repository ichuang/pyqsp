/-
  Property C01 — the phases `QuantumSignalProcessingPhases` (`angle_sequence.py`) returns for a real
  polynomial `p` realise `suc · (p + (eps/2) x^d)` (`d = len p − 1`) within `100 tol` as the `Wx / x`
  (= `Wz / z`) response of the mathematical definition, at EVERY signal value `a ∈ [-1, 1]`.  Proved:
  acceptance by the executable validator `validC01` (`QSP/Model/Validators.lean`) implies this; the
  harness applies the validator to what the library returns.

  The proofs are in `QSP/Proofs/ValidPhase.lean`, `QSP/Proofs/BallSound.lean`, `QSP/Proofs/Trig.lean`;
  the response `respDef` of the definition is in `QSP/Proofs/RespDef.lean`, `polyAt t x = Σ_k t_k x^k`
  in `QSP/Proofs/Series.lean`.
-/
import QSP.Proofs.ValidPhase
open Matrix Complex
open scoped Matrix.Norms.L2Operator
namespace QSP.C01
open QSP

/-! ### the validator is sound -/

/-- acceptance by `validC01` means: as many phases as coefficients, and the response of the
    definition — in both equivalent conventions — is within `100 tol` of
    `suc (p(a) + (eps/2) a^d)` at every `a ∈ [-1, 1]` -/
theorem validC01_sound (p : List ℚ) (eps suc tol : ℚ) (phis : List ℚ) (bits depth : ℕ) (v : VOut)
    (h : validC01 p eps suc tol phis bits depth = .ok v) (hv : v.ok = true) :
    phis.length = p.length ∧ ∀ a : ℝ, a ∈ Set.Icc (-1 : ℝ) 1 →
      ‖respDef .Wz .z (phis.map (fun q : ℚ => (q : ℝ))) a -
          (((suc : ℝ) * (polyAt p a + (eps : ℝ) / 2 * a ^ (p.length - 1)) : ℝ) : ℂ)‖
        ≤ 100 * (tol : ℝ) ∧
      ‖respDef .Wx .x (phis.map (fun q : ℚ => (q : ℝ))) a -
          (((suc : ℝ) * (polyAt p a + (eps : ℝ) / 2 * a ^ (p.length - 1)) : ℝ) : ℂ)‖
        ≤ 100 * (tol : ℝ) :=
  QSP.validC01_sound p eps suc tol phis bits depth v h hv

/-- the error budget against `p` itself: for `0 < suc ≤ 1`, `eps ≥ 0` and `|p| ≤ M` on
    `[-1, 1]`, the response is within `(1 − suc) M + eps/2 + 100 tol` of `p(a)` -/
theorem budget_corollary (p : List ℚ) (eps suc tol : ℚ) (phis : List ℚ) (bits depth : ℕ)
    (v : VOut) (h : validC01 p eps suc tol phis bits depth = .ok v) (hv : v.ok = true)
    (hs0 : 0 < suc) (hs1 : suc ≤ 1) (he : 0 ≤ eps) (M : ℝ)
    (hM : ∀ a : ℝ, a ∈ Set.Icc (-1 : ℝ) 1 → |polyAt p a| ≤ M) :
    ∀ a : ℝ, a ∈ Set.Icc (-1 : ℝ) 1 →
      ‖respDef .Wz .z (phis.map (fun q : ℚ => (q : ℝ))) a - ((polyAt p a : ℝ) : ℂ)‖
        ≤ (1 - (suc : ℝ)) * M + (eps : ℝ) / 2 + 100 * (tol : ℝ) :=
  QSP.budget_corollary p eps suc tol phis bits depth v h hv hs0 hs1 he M hM

/-! ### the enclosures the validator rests on -/

/-- the element `g` computed exactly from `bits`-bit enclosures of the phases, evaluated at ANY
    point `e^{iθ}` of the circle, is within the returned `E` (spectral norm) of the product of
    the true rotations and signal matrices -/
theorem fromAnglesBall_sound (bits : ℕ) (φs : List ℚ) (g : LA ℚ) (E : ℚ)
    (h : fromAnglesBall (enclList bits φs) = .ok (g, E)) :
    (∀ θ : ℝ, ‖evMat g θ - Ucirc θ (φs.map (fun q : ℚ => (q : ℝ)))‖ ≤ (E : ℝ)) ∧
      g.WF ∧ 0 ≤ E ∧ φs ≠ [] := QSP.fromAnglesBall_sound bits φs g E h

/-- on the upper half circle `Ucirc` is the product of the definition, and its top-left entry
    the `Wz / z` response at the signal `cos θ` -/
theorem Ucirc_00_eq_Wz_z (θ : ℝ) (hθ : 0 ≤ Real.sin θ) (φs : List ℝ) :
    (Ucirc θ φs) 0 0 = respDef .Wz .z φs (Real.cos θ) := QSP.Ucirc_00_eq_Wz_z θ hθ φs

theorem trigEncl_sound (x : ℚ) (b : ℕ) :
    |Real.cos (x : ℝ) - ((trigEncl x b).c : ℝ)| ≤ ((trigEncl x b).δ : ℝ) ∧
    |Real.sin (x : ℝ) - ((trigEncl x b).s : ℝ)| ≤ ((trigEncl x b).δ : ℝ) :=
  QSP.trigEncl_sound x b

/-! ### non-vacuity -/

/-- evaluated once by the kernel, for the examples below -/
theorem validC01_accepted :
    (validC01 [0, 9 / 10] (1 / 5) 1 (1 / 1000) [355 / 452, -355 / 452] 12 10).map (·.ok)
      = .ok true := by decide +kernel

/-- a kernel-checked accepting run: `p = 0.9 x`, `eps = 0.2`, `suc = 1` (target `x`), phases
    `≈ (π/4, −π/4)` … -/
example : (validC01 [0, 9 / 10] (1 / 5) 1 (1 / 1000) [355 / 452, -355 / 452] 12 10).map (·.ok)
    = .ok true := validC01_accepted

/-- … so the theorems apply to it: the response of these two phases is within `0.1` of
    `0.9 a + 0.1 a` on all of `[-1, 1]` -/
example : ∀ a : ℝ, a ∈ Set.Icc (-1 : ℝ) 1 →
    ‖respDef .Wx .x ([355 / 452, -355 / 452].map (fun q : ℚ => (q : ℝ))) a -
        ((((1 : ℚ) : ℝ) * (polyAt [0, 9 / 10] a + ((1 / 5 : ℚ) : ℝ) / 2 *
          a ^ (([0, 9 / 10] : List ℚ).length - 1)) : ℝ) : ℂ)‖ ≤ 100 * ((1 / 1000 : ℚ) : ℝ) := by
  obtain ⟨v, h, hv⟩ := ok_of_map_ok validC01_accepted
  intro a ha
  exact ((validC01_sound _ _ _ _ _ _ _ v h hv).2 a ha).2

/-- a wrong target is refused (the validator is not trivially `true`) -/
example : (validC01 [0, 1 / 2] 0 1 (1 / 1000) [355 / 452, -355 / 452] 12 10).map (·.ok)
    = .ok false := by decide +kernel

/-- a phase list of the wrong length is refused at stage 0 -/
example : (validC01 [0, 9 / 10] (1 / 5) 1 (1 / 1000) [355 / 452] 12 10).map
    (fun v => (v.ok, v.stage)) = .ok (false, 0) := by decide +kernel

/-- the hypotheses of `budget_corollary` on `suc`, `eps` hold for the run above, and
    `|0.9 a| ≤ 9/10` on `[-1, 1]` -/
example : (0 : ℚ) < 1 ∧ (1 : ℚ) ≤ 1 ∧ (0 : ℚ) ≤ 1 / 5 ∧
    ∀ a : ℝ, a ∈ Set.Icc (-1 : ℝ) 1 → |polyAt [0, 9 / 10] a| ≤ 9 / 10 := by
  refine ⟨by norm_num, le_refl _, by norm_num, fun a ha => ?_⟩
  have e : polyAt [0, 9 / 10] a = 9 / 10 * a := by
    simp only [polyAt_cons, polyAt_nil]; push_cast; ring
  rw [e, abs_mul, abs_of_nonneg (by norm_num : (0 : ℝ) ≤ 9 / 10)]
  exact mul_le_of_le_one_right (by norm_num) (abs_le.mpr ha)

end QSP.C01
