/-
  Property C09 — parity-constrained Laurent polynomial arithmetic (`pyqsp/LPoly.py :: class LPoly`, the
  list model `LP R`) is exact ring arithmetic: what an operation of the model returns denotes (`den`) the
  result of that operation in Mathlib's `R[T;T⁻¹]`, for single operations and, in `run_refines`, for
  histories of operations.

  The lemmas are in `QSP/Proofs/LPoly.lean`, `Den.lean` and `LRep.lean`.  Every statement is for an
  arbitrary commutative ring `R` (`roundZeros_spec`: for `ℚ`), any list length, any lowest power of either
  sign and parity.
-/
import QSP.Proofs.LPoly
open LaurentPolynomial
namespace QSP.C09
open QSP
variable {R : Type} [CommRing R]

/-- the model's product denotes the product of Laurent polynomials -/
theorem den_mul (p q : LP R) (hp : p.WF) (hq : q.WF) :
    den (p.mul q) = den p * den q ∧ (p.mul q).WF := QSP.den_mul p q hp hq

/-- sums: defined whenever an operand is zero or the parities agree … -/
theorem den_add (p q : LP R) (hp : p.WF) (hq : q.WF)
    (h : p.iszero = true ∨ q.iszero = true ∨ p.parity = q.parity) :
    ∃ r, p.add q = .ok r ∧ den r = den p + den q ∧ r.WF := QSP.den_add p q hp hq h

/-- … and refused otherwise -/
theorem add_refuses (p q : LP R) (hp : p.iszero = false) (hq : q.iszero = false)
    (h : p.parity ≠ q.parity) : p.add q = .error .parity := QSP.add_refuses p q hp hq h

theorem den_sub (p q : LP R) (hp : p.WF) (hq : q.WF)
    (h : p.iszero = true ∨ q.iszero = true ∨ p.parity = q.parity) :
    ∃ r, p.sub q = .ok r ∧ den r = den p - den q ∧ r.WF := QSP.den_sub p q hp hq h

theorem den_neg (p : LP R) (hp : p.WF) : den p.neg = - den p ∧ p.neg.WF := QSP.den_neg p hp

theorem den_smul (c : R) (p : LP R) (hp : p.WF) :
    den (LP.smul c p) = C c * den p ∧ (LP.smul c p).WF := QSP.den_smul c p hp

/-- inversion `w -> 1/w` -/
theorem den_inv (p : LP R) (hp : p.WF) :
    den p.inv = invert (den p) ∧ p.inv.WF := QSP.den_inv p hp

/-- coefficient lookup, for keys of either parity, inside or outside the stored range -/
theorem getItem_eq (p : LP R) (k : ℤ) : p.getItem k = (den p).coeff k := QSP.getItem_eq p k

/-- the stored power range bounds the support; `degree` and `parity` describe that range -/
theorem support_range (p : LP R) (k : ℤ) (h : (den p).coeff k ≠ 0) :
    p.dmin ≤ k ∧ k ≤ p.dmax ∧ (k - p.dmin) % 2 = 0 ∧ |k| ≤ p.degree ∧ k % 2 = p.parity := by
  obtain ⟨h1, h2, h3⟩ := denL_coeff_ne_zero h
  have h3 : k ≤ p.dmax := by rw [LP.dmax_eq]; omega
  exact ⟨h2, h3, h1, abs_le.mpr ⟨neg_le.mp ((neg_le_neg h2).trans (le_max_left ..)),
    h3.trans (le_max_right ..)⟩, Int.emod_eq_emod_iff_emod_sub_eq_zero.mpr h1⟩

/-- alignment to any enclosing window of the same parity keeps the denotation -/
theorem den_aligned (p : LP R) (hp : p.WF) (lo hi : ℤ) (l : List R)
    (hpar : p.iszero = true ∨ (p.dmin - lo) % 2 = 0) (h : p.aligned lo hi = .ok l) :
    denL l lo = den p ∧
      (p.iszero = false → (hi - p.dmax) % 2 = 0 → (l.length : ℤ) = (hi - lo) / 2 + 1) :=
  QSP.den_aligned p hp lo hi l hpar h

/-- truncation to ANY power window `[lo, hi]` of the polynomial's parity (also empty and
    reversed windows, windows larger than, overlapping or disjoint from the stored range) -/
theorem den_truncate (p : LP R) (hp : p.WF) (lo hi : ℤ)
    (hpar : p.iszero = true ∨ ((lo - p.dmin) % 2 = 0 ∧ (hi - p.dmin) % 2 = 0)) :
    ∃ r, p.truncate lo hi = .ok r ∧ r.WF ∧
      ∀ k, (den r).coeff k = if lo ≤ k ∧ k ≤ hi then (den p).coeff k else 0 :=
  QSP.den_truncate p hp lo hi hpar

/-- positive / negative halves (index form, and the symmetric-range reading) -/
theorem den_posHalf (p : LP R) (k : ℤ) :
    (den p.posHalf).coeff k = if p.dmin + 2 * (p.nhalf : ℤ) ≤ k then (den p).coeff k else 0 :=
  QSP.den_posHalf p k

theorem den_negHalf (p : LP R) (k : ℤ) :
    (den p.negHalf).coeff k = if k < p.dmin + 2 * (p.nhalf : ℤ) then (den p).coeff k else 0 :=
  QSP.den_negHalf p k

theorem halves_symmetric (p : LP R) (hs : p.dmin = -p.dmax) (k : ℤ) :
    (den p.posHalf).coeff k = (if 0 < k then (den p).coeff k else 0) ∧
    (den p.negHalf).coeff k = (if k ≤ 0 then (den p).coeff k else 0) := by
  rw [den_posHalf, den_negHalf]
  by_cases hc : (den p).coeff k = 0
  · simp [hc]
  · -- among the powers of the symmetric range the cut after `nhalf` entries falls between 0 and 1
    have h1 := denL_coeff_ne_zero hc
    have hn : (p.nhalf : ℤ) = (p.coefs.length + 1) / 2 := by
      unfold LP.nhalf; push_cast; rfl
    rw [LP.dmax_eq] at hs
    have e : p.dmin + 2 * (p.nhalf : ℤ) ≤ k ↔ 0 < k := by omega
    have e' : k < p.dmin + 2 * (p.nhalf : ℤ) ↔ k ≤ 0 := by rw [← not_le, e, not_lt]
    simp only [e, e', and_self]

/-- the zero polynomial -/
theorem den_zero : den (LP.zero : LP R) = 0 ∧ (LP.zero : LP R).WF := QSP.den_zero

theorem evalAt_zero (w w' : R) : (LP.zero : LP R).evalAt w w' = 0 := QSP.evalAt_zero w w'

/-- point evaluation is the evaluation homomorphism -/
theorem evalAt_eq (p : LP R) (hp : p.WF) (u : Rˣ) :
    p.evalAt (u : R) ((u⁻¹ : Rˣ) : R) = LaurentPolynomial.eval₂ (RingHom.id R) u (den p) :=
  QSP.evalAt_eq p hp u

/-- the squared 2-norm is the constant coefficient of `f(w) f(1/w)` -/
theorem normSq_eq (p : LP R) : p.normSq = (den p * invert (den p)).coeff 0 := QSP.normSq_eq p

/-- rounding small coefficients: exactly those of magnitude below the threshold vanish -/
theorem roundZeros_spec (t : ℚ) (p : LP ℚ) :
    (p.roundZeros t).coefs = p.coefs.map (fun c => if |c| < t then 0 else c) ∧
    (p.roundZeros t).dmin = p.dmin := QSP.roundZeros_spec t p

/-- history form: any sequence of register operations that the model completes is a run of
    the abstract interpreter `RunAbs` over Mathlib's Laurent polynomials (registers hold
    `R[T;T⁻¹]`; `mul/add/sub/neg/inv/smul` are the ring operations, `invert` and `C c * ·`;
    `trunc` keeps exactly the coefficients of the window).

    `TruncOK ops env` (defined in `QSP/Proofs/LPoly.lean` by recursion along the model run)
    says that every `trunc dst a lo hi` that the history executes meets
    `TruncGuard (den (rd env a)) lo`: the lower window end `lo` has the parity of every power
    occurring in the operand.  This is the side condition of `den_truncate` in its weakest
    form (nothing is asked when the operand denotes 0, nothing about `hi`); without it the
    floor divisions of `truncate` shift the polynomial by one power
    (`(LP.mk' [1] 0).truncate (-1) 1` is `w⁻¹`), so the guard cannot be dropped.
    `truncGuard_of_parity` derives it from the executable test
    `p.iszero = true ∨ (lo - p.dmin) % 2 = 0`. -/
theorem run_refines (ops : List (Op R)) (env : List (LP R)) (henv : ∀ p ∈ env, p.WF)
    (hok : TruncOK ops env) (env' : List (LP R)) (h : run ops env = .ok env') :
    RunAbs ops (env.map den) (env'.map den) ∧ ∀ p ∈ env', p.WF :=
  QSP.run_refines ops env henv hok env' h

/-- the general form of `den_truncate` (the one `run_refines` uses): only the lower window end has to have
    the parity of the powers that occur in `p` -/
theorem den_truncate' (p : LP R) (hp : p.WF) (lo hi : ℤ) (hpar : TruncGuard (den p) lo) :
    ∃ r, p.truncate lo hi = .ok r ∧ r.WF ∧
      ∀ k, (den r).coeff k = if lo ≤ k ∧ k ≤ hi then (den p).coeff k else 0 :=
  QSP.den_truncate' p hp lo hi hpar

theorem truncGuard_of_parity (p : LP R) (hp : p.WF) (lo : ℤ)
    (h : p.iszero = true ∨ (lo - p.dmin) % 2 = 0) : TruncGuard (den p) lo :=
  QSP.truncGuard_of_parity p hp lo h

/-- non-vacuity: a concrete three-term polynomial meets the hypotheses and the operations
    return on it -/
example : (LP.mk' [(1 : ℤ), 2, 3] (-2)).WF ∧
    (LP.mk' [(1 : ℤ), 2, 3] (-2)).parity = (LP.mk' [(5 : ℤ)] 0).parity ∧
    ((LP.mk' [(1 : ℤ), 2, 3] (-2)).truncate 0 2).isOk = true := by
  refine ⟨?_, by decide +kernel, by decide +kernel⟩
  unfold LP.WF
  decide +kernel

/-- non-vacuity of `run_refines`: a history with a guarded `trunc`, a product and a sum on a
    well-formed three-register file meets `TruncOK`, is completed by the model, and hence is
    an abstract history -/
example :
    let p : LP ℤ := LP.mk' [1, 2, 3] (-2)
    let env : List (LP ℤ) := [p, LP.zero, LP.zero]
    let ops : List (Op ℤ) := [Op.trunc 1 0 0 2, Op.mul 2 0 1, Op.add 0 2 0]
    (∀ q ∈ env, q.WF) ∧ TruncOK ops env ∧ (run ops env).isOk = true ∧
      ∃ env', RunAbs ops (env.map den) env' := by
  intro p env ops
  have hwf : p.WF := by unfold LP.WF; decide +kernel
  have hz : (LP.zero : LP ℤ).WF := den_zero.2
  have henv : ∀ q ∈ env, q.WF := by
    intro q hq
    simp only [env, List.mem_cons, List.not_mem_nil, or_false] at hq
    rcases hq with rfl | rfl | rfl <;> assumption
  have hok : TruncOK ops env :=
    ⟨QSP.truncGuard_of_parity _ hwf 0 (Or.inr (by decide +kernel)),
      fun _ _ => ⟨trivial, fun _ _ => ⟨trivial, fun _ _ => trivial⟩⟩⟩
  have hrun : (run ops env).isOk = true := by decide +kernel
  refine ⟨henv, hok, hrun, ?_⟩
  cases h : run ops env with
  | error e => rw [h] at hrun; exact Bool.noConfusion hrun
  | ok env' => exact ⟨_, (run_refines ops env henv hok env' h).1⟩

end QSP.C09
