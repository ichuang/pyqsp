/-
  Soundness of the executable sup-norm certificate `QSP/Model/Sup.lean`
  (`sup_{|w|=1} |f(w)| ≤ B` for `f(w) = sum_j cs[j] w^(d+2j)`, exact rational arithmetic, adaptive
  bisection).  The statements and their non-vacuity examples are here; `FW`, `toC`, `cayleyC` and
  the proofs are in `QSP/Proofs/Sup.lean`.
-/
import QSP.Proofs.Sup
open Complex
namespace QSP.Sup
open QSP

/-- the rational Cayley point is the complex Cayley point … -/
theorem cayley_spec (t : ℚ) : toC (cayley t) = cayleyC (t : ℝ) := QSP.cayley_spec t

/-- … which lies on the unit circle -/
theorem norm_cayleyC (t : ℝ) : ‖cayleyC t‖ = 1 := QSP.norm_cayleyC t

/-- `evalCayley` computes the exact value of `f` at a rational circle point … -/
theorem evalCayley_spec (cs : List CQ) (d : ℤ) (t : ℚ) :
    toC (evalCayley cs d t).1 = FW (cs.map toC) d (cayleyC t) := QSP.evalCayley_spec cs d t

/-- … and `normSq` its exact squared modulus (a proven lower-bound witness for the sup) -/
theorem normSq_spec (a : CQ) : ((a.normSq : ℚ) : ℝ) = ‖toC a‖ ^ 2 := QSP.normSq_spec a

/-- an accepted certificate bounds `f` on the first quadrant `t ∈ [0,1]` -/
theorem supLeQ_sound (cs : List CQ) (d : ℤ) (B : ℚ) (depth : ℕ)
    (h : (supLeQ cs d B depth).1 = true) :
    ∀ t : ℝ, 0 ≤ t → t ≤ 1 → ‖FW (cs.map toC) d (cayleyC t)‖ ≤ (B : ℝ) :=
  QSP.supLeQ_sound cs d B depth h

/-- every first-quadrant point of the unit circle is `cayleyC t` with `t ∈ [0,1]` -/
theorem quadrant_param (w : ℂ) (hw : ‖w‖ = 1) (hx : 0 ≤ w.re) (hy : 0 ≤ w.im) :
    ∃ t : ℝ, 0 ≤ t ∧ t ≤ 1 ∧ cayleyC t = w := QSP.quadrant_param w hw hx hy

/-- whole circle, complex-rational coefficients -/
theorem supLeC_sound (cs : List CQ) (d : ℤ) (B : ℚ) (depth : ℕ)
    (h : (supLeC cs d B depth).1 = true) :
    ∀ w : ℂ, ‖w‖ = 1 → ‖FW (cs.map toC) d w‖ ≤ (B : ℝ) := QSP.supLeC_sound cs d B depth h

/-- whole circle, rational (real) coefficients -/
theorem supLeReal_sound (cs : List ℚ) (d : ℤ) (B : ℚ) (depth : ℕ)
    (h : (supLeReal cs d B depth).1 = true) :
    ∀ w : ℂ, ‖w‖ = 1 → ‖FW (cs.map (fun q : ℚ => ((q : ℝ) : ℂ))) d w‖ ≤ (B : ℝ) :=
  QSP.supLeReal_sound cs d B depth h

/-! ## Non-vacuity (kernel-checked evaluations of the executable certificate) -/

/-- `0.45 (w⁻¹ + w) = 0.9 cos θ`: the bound `0.9009` is certified with 11 evaluations … -/
theorem supLeReal_accepted : supLeReal [9/20, 9/20] (-1) (9009/10000) 30 = (true, 11) := by
  decide +kernel

example : supLeReal [9/20, 9/20] (-1) (9009/10000) 30 = (true, 11) := supLeReal_accepted

/-- … hence the theorem applies … -/
example : ∀ w : ℂ, ‖w‖ = 1 →
    ‖FW ([9/20, 9/20].map (fun q : ℚ => ((q : ℝ) : ℂ))) (-1) w‖ ≤ ((9009/10000 : ℚ) : ℝ) :=
  supLeReal_sound _ _ _ 30 (congrArg Prod.fst supLeReal_accepted)

/-- … the bound is nearly attained: at `t = 0` (`w = 1`) the exact squared modulus is `0.81` … -/
example : (evalCayley [(9/20, 0), (9/20, 0)] (-1) 0).1.normSq = 81/100 := by decide +kernel

/-- … and a bound below the sup is refused (the certificate is not trivially `true`) -/
example : supLeReal [9/20, 9/20] (-1) (89/100) 30 = (false, 4) := by decide +kernel

/-- complex coefficients, three terms `w⁻², w⁰, w²` -/
example : supLeC [(1/3, 1/5), (0, -1/7), (2/9, 0)] (-2) (3/4) 30 = (true, 28) := by
  decide +kernel

end QSP.Sup
