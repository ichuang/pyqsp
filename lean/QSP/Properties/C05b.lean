/-
  Property C05 (second half) — the glue that turns the Chebyshev coefficients of `P = pre + i pim`
  (first kind, length `deg + 1`) and of the completing polynomial `Q = qre + i qim` (second kind,
  length `deg`, index `j` = coefficient of `U_j`) into the Laurent vectors `fcoefs`, `gcoefs` on the
  powers `-deg, -deg+2, …, deg` of the algebra element `F(w) + G(w)·iX`
  (`interleavePQ`, `QSP/Model/Interleave.lean`).

  With `w = e^{iθ}`:
      F = Σ_k pre_k cos kθ + i Σ_k qre_{k-1} sin kθ,   G = Σ_k pim_k cos kθ − i Σ_k qim_{k-1} sin kθ
  (`k ≤ deg`, `k ≡ deg mod 2`, `q_{-1} := 0`), so for `P` of parity `deg` and `Q` of parity `deg − 1`
  the Hadamard-conjugated matrix of `[[F(θ), iG(θ)], [iG(−θ), F(−θ)]]` is
  `[[P, iQ sin θ], [iQ* sin θ, P*]]` at `cos θ` (`corners_cheb`).

  The slot lemmas (`slot_length`, `evalQ_slot`, `evalQ_slot_false`) are proved in
  `QSP/Proofs/Interleave.lean`; the passage from `cosPart` / `sinPart` to the Chebyshev series
  (`cosPart_eq_chebAt`, `sinPart_eq_chebUAt`) is proved here.  Vocabulary (that file): `cosPart deg c θ = Σ_{k ≤ deg, k ≡ deg}
  c_k cos kθ`, `sinPart deg c θ = Σ_{k ≤ deg, k ≡ deg} c_{k-1} sin kθ` (both real, both through
  `parSum`), `chebUAt c x = Σ_j c_j U_j(x)`; `chebAt c x = Σ_k c_k T_k(x)` is in
  `QSP/Proofs/Series.lean`, `OppZero par l` (all entries of the parity opposite to `par` are
  zero) in `QSP/Proofs/Generators.lean`, `evQ p θ` (the value at `e^{iθ}`) in
  `QSP/Proofs/AnglesEval.lean`.
-/
import QSP.Proofs.Interleave
open LaurentPolynomial Complex
namespace QSP.C05b
open QSP

/-! ### the statement vocabulary, unfolded -/

theorem parSum_def (deg : ℕ) (h : ℕ → ℝ) :
    parSum deg h = ∑ k ∈ (Finset.range (deg + 1)).filter (fun k => k % 2 = deg % 2), h k := rfl

theorem cosPart_def (deg : ℕ) (c : List ℚ) (θ : ℝ) :
    cosPart deg c θ = parSum deg (fun k => ((c.getD k 0 : ℚ) : ℝ) * Real.cos ((k : ℝ) * θ)) := rfl

theorem sinPart_def (deg : ℕ) (c : List ℚ) (θ : ℝ) :
    sinPart deg c θ =
      parSum deg (fun k => (((0 :: c).getD k 0 : ℚ) : ℝ) * Real.sin ((k : ℝ) * θ)) := rfl

theorem chebUAt_eq_sum (c : List ℚ) (x : ℝ) :
    chebUAt c x = ∑ k ∈ Finset.range c.length,
      ((c.getD k 0 : ℚ) : ℝ) * (Polynomial.Chebyshev.U ℝ (k : ℤ)).eval x := by
  rw [chebUAt, wsum_eq_sum]
  simp only [zero_add]

/-! ### shape -/

/-- `fcoefs` has one entry per power `-deg, …, deg` as soon as `Q` is long enough … -/
theorem length_fst (pre pim qre qim : List ℚ) (hq : pre.length - 1 ≤ qre.length) :
    (interleavePQ pre pim qre qim).1.length = pre.length :=
  slot_length pre qre true hq

/-- … and so has `gcoefs` -/
theorem length_snd (pre pim qre qim : List ℚ) (hp : pim.length = pre.length)
    (hq : pre.length - 1 ≤ qim.length) :
    (interleavePQ pre pim qre qim).2.length = pre.length := by
  have h := slot_length pim qim false (hp ▸ hq)
  rwa [hp] at h

/-! ### the cosine / sine decomposition on the circle -/

/-- `F(e^{iθ}) = Σ_k pre_k cos kθ + i Σ_k qre_{k-1} sin kθ` -/
theorem evQ_fst (pre pim qre qim : List ℚ) (hq : pre.length - 1 ≤ qre.length) (θ : ℝ) :
    evQ (LP.mk' (interleavePQ pre pim qre qim).1 (-((pre.length - 1 : ℕ) : ℤ))) θ =
      ((cosPart (pre.length - 1) pre θ : ℝ) : ℂ) +
        I * ((sinPart (pre.length - 1) qre θ : ℝ) : ℂ) := by
  rw [evQ_eq, den_mk']
  exact evalQ_slot pre qre hq θ

/-- `G(e^{iθ}) = Σ_k pim_k cos kθ − i Σ_k qim_{k-1} sin kθ` -/
theorem evQ_snd (pre pim qre qim : List ℚ) (hp : pim.length = pre.length)
    (hq : pre.length - 1 ≤ qim.length) (θ : ℝ) :
    evQ (LP.mk' (interleavePQ pre pim qre qim).2 (-((pre.length - 1 : ℕ) : ℤ))) θ =
      ((cosPart (pre.length - 1) pim θ : ℝ) : ℂ) -
        I * ((sinPart (pre.length - 1) qim θ : ℝ) : ℂ) := by
  rw [evQ_eq, den_mk']
  simp only [interleavePQ]
  rw [← hp] at hq ⊢
  exact evalQ_slot_false pim qim hq θ

/-- both, written out as one sum over `k ≤ deg`, `k ≡ deg (mod 2)` each -/
theorem evQ_sums (pre pim qre qim : List ℚ) (hp : pim.length = pre.length)
    (hqr : pre.length - 1 ≤ qre.length) (hqi : pre.length - 1 ≤ qim.length) (θ : ℝ) :
    let d := pre.length - 1
    evQ (LP.mk' (interleavePQ pre pim qre qim).1 (-(d : ℤ))) θ =
        ∑ k ∈ (Finset.range (d + 1)).filter (fun k => k % 2 = d % 2),
          ((pre.getD k 0 : ℂ) * Complex.cos ((k : ℂ) * (θ : ℂ)) +
            I * ((0 :: qre).getD k 0 : ℂ) * Complex.sin ((k : ℂ) * (θ : ℂ))) ∧
    evQ (LP.mk' (interleavePQ pre pim qre qim).2 (-(d : ℤ))) θ =
        ∑ k ∈ (Finset.range (d + 1)).filter (fun k => k % 2 = d % 2),
          ((pim.getD k 0 : ℂ) * Complex.cos ((k : ℂ) * (θ : ℂ)) -
            I * ((0 :: qim).getD k 0 : ℂ) * Complex.sin ((k : ℂ) * (θ : ℂ))) := by
  intro d
  rw [evQ_fst pre pim qre qim hqr, evQ_snd pre pim qre qim hp hqi]
  simp only [cosPart, sinPart, ofReal_parSum, Finset.mul_sum, ← Finset.sum_add_distrib,
    ← Finset.sum_sub_distrib]
  constructor <;>
  · apply Finset.sum_congr rfl
    intro k _
    push_cast
    ring

/-! ### the entries of the Hadamard-conjugated matrix -/

/-- entries (0,0), (0,1), (1,0), (1,1) of `H · [[F(θ), iG(θ)], [iG(−θ), F(−θ)]] · H` through the
    parity-filtered sums (no parity assumption on the inputs) -/
theorem corners (pre pim qre qim : List ℚ) (θ : ℝ) (hp : pim.length = pre.length)
    (hqr : pre.length - 1 ≤ qre.length) (hqi : pre.length - 1 ≤ qim.length) :
    let d := pre.length - 1
    let f := LP.mk' (interleavePQ pre pim qre qim).1 (-(d : ℤ))
    let g := LP.mk' (interleavePQ pre pim qre qim).2 (-(d : ℤ))
    ((evQ f θ + evQ f (-θ)) / 2 + I * ((evQ g θ + evQ g (-θ)) / 2) =
        ((cosPart d pre θ : ℝ) : ℂ) + I * ((cosPart d pim θ : ℝ) : ℂ)) ∧
    ((evQ f θ - evQ f (-θ)) / 2 - I * ((evQ g θ - evQ g (-θ)) / 2) =
        I * (((sinPart d qre θ : ℝ) : ℂ) + I * ((sinPart d qim θ : ℝ) : ℂ))) ∧
    ((evQ f θ - evQ f (-θ)) / 2 + I * ((evQ g θ - evQ g (-θ)) / 2) =
        I * (((sinPart d qre θ : ℝ) : ℂ) - I * ((sinPart d qim θ : ℝ) : ℂ))) ∧
    ((evQ f θ + evQ f (-θ)) / 2 - I * ((evQ g θ + evQ g (-θ)) / 2) =
        ((cosPart d pre θ : ℝ) : ℂ) - I * ((cosPart d pim θ : ℝ) : ℂ)) := by
  intro d f g
  have hf : ∀ t : ℝ, evQ f t = _ := evQ_fst pre pim qre qim hqr
  have hg : ∀ t : ℝ, evQ g t = _ := evQ_snd pre pim qre qim hp hqi
  rw [hf θ, hf (-θ), hg θ, hg (-θ)]
  simp only [cosPart_neg, sinPart_neg]
  push_cast
  refine ⟨by ring, by ring, by ring, by ring⟩

/-- a first-kind coefficient list of definite parity: `cosPart` is the Chebyshev series -/
theorem cosPart_eq_chebAt (deg : ℕ) (c : List ℚ) (hlen : c.length = deg + 1)
    (hz : OppZero deg c) (θ : ℝ) : cosPart deg c θ = chebAt c (Real.cos θ) := by
  rw [cosPart, parSum_eq_sum_range, chebAt_eq_sum, hlen]
  · apply Finset.sum_congr rfl
    intro k _
    rw [Polynomial.Chebyshev.T_real_cos]
    push_cast
    rfl
  · intro k hk
    rw [hz k hk]; simp

/-- a second-kind coefficient list of the opposite parity: `sinPart` is the second-kind Chebyshev
    series times `sin θ` -/
theorem sinPart_eq_chebUAt (deg : ℕ) (c : List ℚ) (hlen : c.length = deg)
    (hz : OppZero (deg + 1) c) (θ : ℝ) :
    sinPart deg c θ = chebUAt c (Real.cos θ) * Real.sin θ := by
  rw [sinPart, parSum_eq_sum_range, chebUAt_eq_sum, hlen, Finset.sum_range_succ', Finset.sum_mul]
  · rw [List.getD_cons_zero, Rat.cast_zero, zero_mul, add_zero]
    refine Finset.sum_congr rfl fun k _ => ?_
    rw [List.getD_cons_succ, mul_assoc, Polynomial.Chebyshev.U_real_cos, Nat.cast_succ]
    rfl
  · intro k hk
    cases k with
    | zero => rw [List.getD_cons_zero, Rat.cast_zero, zero_mul]
    | succ j =>
      rw [List.getD_cons_succ,
        hz j fun h => hk ((Nat.ModEq.add_right 1 h).trans (Nat.add_mod_right deg 2)),
        Rat.cast_zero, zero_mul]

/-- for `P` of parity `deg` and `Q` of parity `deg - 1` the matrix is
    `[[P(a), i Q(a) sin θ], [i Q*(a) sin θ, P*(a)]]`, `a = cos θ` -/
theorem corners_cheb (pre pim qre qim : List ℚ) (deg : ℕ)
    (h1 : pre.length = deg + 1) (h2 : pim.length = deg + 1)
    (h3 : qre.length = deg) (h4 : qim.length = deg)
    (z1 : OppZero deg pre) (z2 : OppZero deg pim)
    (z3 : OppZero (deg + 1) qre) (z4 : OppZero (deg + 1) qim) (θ : ℝ) :
    let f := LP.mk' (interleavePQ pre pim qre qim).1 (-(deg : ℤ))
    let g := LP.mk' (interleavePQ pre pim qre qim).2 (-(deg : ℤ))
    ((evQ f θ + evQ f (-θ)) / 2 + I * ((evQ g θ + evQ g (-θ)) / 2) =
        ((chebAt pre (Real.cos θ) : ℝ) : ℂ) + I * ((chebAt pim (Real.cos θ) : ℝ) : ℂ)) ∧
    ((evQ f θ - evQ f (-θ)) / 2 - I * ((evQ g θ - evQ g (-θ)) / 2) =
        I * ((((chebUAt qre (Real.cos θ) : ℝ) : ℂ) + I * ((chebUAt qim (Real.cos θ) : ℝ) : ℂ)) *
          ((Real.sin θ : ℝ) : ℂ))) ∧
    ((evQ f θ - evQ f (-θ)) / 2 + I * ((evQ g θ - evQ g (-θ)) / 2) =
        I * ((((chebUAt qre (Real.cos θ) : ℝ) : ℂ) - I * ((chebUAt qim (Real.cos θ) : ℝ) : ℂ)) *
          ((Real.sin θ : ℝ) : ℂ))) ∧
    ((evQ f θ + evQ f (-θ)) / 2 - I * ((evQ g θ + evQ g (-θ)) / 2) =
        ((chebAt pre (Real.cos θ) : ℝ) : ℂ) - I * ((chebAt pim (Real.cos θ) : ℝ) : ℂ)) := by
  have hd : pre.length - 1 = deg := by rw [h1, Nat.add_sub_cancel]
  have h := corners pre pim qre qim θ (h2.trans h1.symm) (by rw [hd, h3]) (by rw [hd, h4])
  simp only [hd] at h
  rw [cosPart_eq_chebAt deg pre h1 z1, cosPart_eq_chebAt deg pim h2 z2,
    sinPart_eq_chebUAt deg qre h3 z3, sinPart_eq_chebUAt deg qim h4 z4] at h
  intro f g
  obtain ⟨a, b, c, d⟩ := h
  refine ⟨a, ?_, ?_, d⟩
  · rw [b]; push_cast; ring
  · rw [c]; push_cast; ring

/-- the corner, in the form checked by `validC05` (lowest power written `-(length) + 1`), is EXACTLY
    `P(cos θ)` — whatever the (length-`deg`) lists `qre`, `qim` are -/
theorem corner_lenForm (pre pim qre qim : List ℚ) (deg : ℕ)
    (h1 : pre.length = deg + 1) (h2 : pim.length = deg + 1)
    (h3 : qre.length = deg) (h4 : qim.length = deg)
    (z1 : OppZero deg pre) (z2 : OppZero deg pim) (θ : ℝ) :
    let F := (interleavePQ pre pim qre qim).1
    let G := (interleavePQ pre pim qre qim).2
    (evQ (LP.mk' F (-(F.length : ℤ) + 1)) θ + evQ (LP.mk' F (-(F.length : ℤ) + 1)) (-θ)) / 2 +
        I * ((evQ (LP.mk' G (-(G.length : ℤ) + 1)) θ +
          evQ (LP.mk' G (-(G.length : ℤ) + 1)) (-θ)) / 2) =
      ((chebAt pre (Real.cos θ) : ℝ) : ℂ) + I * ((chebAt pim (Real.cos θ) : ℝ) : ℂ) := by
  intro F G
  have hd : pre.length - 1 = deg := by rw [h1, Nat.add_sub_cancel]
  have hp : pim.length = pre.length := h2.trans h1.symm
  have hF : F.length = deg + 1 := (length_fst pre pim qre qim (by rw [hd, h3])).trans h1
  have hG : G.length = deg + 1 := (length_snd pre pim qre qim hp (by rw [hd, h4])).trans h1
  have h := (corners pre pim qre qim θ hp (by rw [hd, h3]) (by rw [hd, h4])).1
  rw [hd, cosPart_eq_chebAt deg pre h1 z1, cosPart_eq_chebAt deg pim h2 z2] at h
  rw [hF, hG, show -((deg + 1 : ℕ) : ℤ) + 1 = -(deg : ℤ) by push_cast; ring]
  exact h

/-! ### non-vacuity -/

/-- `P(a) = a`, `Q = 0`: `F = (w + 1/w)/2`, `G = 0` -/
example : interleavePQ [0, 1] [0, 0] [0] [0] = ([1 / 2, 1 / 2], [0, 0]) := by decide +kernel

/-- `P(a) = a`, `Q = 1`: `F = w` -/
example : interleavePQ [0, 1] [0, 0] [1] [0] = ([0, 1], [0, 0]) := by decide +kernel

/-- an even example, `deg = 2`, with non-zero `Q = (1/4 + i/9) U_1` -/
example : interleavePQ [1 / 2, 0, 1 / 3] [1 / 5, 0, 1 / 7] [0, 1 / 4] [0, 1 / 9] =
    ([1 / 24, 1 / 2, 7 / 24], [8 / 63, 1 / 5, 1 / 63]) := by decide +kernel

/-- an odd example, `deg = 3` -/
example : interleavePQ [0, 1 / 2, 0, 1 / 3] [0, 1 / 5, 0, 1 / 7] [1 / 4, 0, 1 / 6]
      [1 / 8, 0, 1 / 9] =
    ([1 / 12, 1 / 8, 3 / 8, 1 / 4], [8 / 63, 13 / 80, 3 / 80, 1 / 63]) := by decide +kernel

/-- the parity hypotheses of `corners_cheb` on the real parts hold for these inputs -/
example : OppZero 2 [1 / 2, 0, 1 / 3] ∧ OppZero 3 [0, 1 / 4] ∧
    OppZero 3 [0, 1 / 2, 0, 1 / 3] ∧ OppZero 4 [1 / 4, 0, 1 / 6] := by decide +kernel

/-- the length hypothesis on `Q` is needed: with a too short `Q` the mirrored halves are truncated
    (and the degenerate empty input gives empty vectors) -/
example : interleavePQ [1, 2, 3] [4, 5, 6] [] [] = ([1], [4]) ∧
    interleavePQ [] [] [] [] = ([], []) := by decide +kernel

end QSP.C05b
