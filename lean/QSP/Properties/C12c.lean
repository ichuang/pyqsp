/-
  Property C12, Jacobian clause, COEFFICIENT-WISE — "`gen_jacobian()` returns exactly the
  non-trivial Chebyshev coefficients of `Im <0|U(a)|0>` together with their true partial
  derivatives with respect to each reduced phase".

  C12b identifies, pointwise in the signal, the product-rule functional tabulated by the
  specification-level Jacobian `jacSpec` (`QSP/Model/Jacobian.lean`) with the true partial
  derivative of the response.  Here:

  (G1) `chebCoefs par red` / `dCoefs par red j` — the lists of Chebyshev coefficients
       `c_{2m+par}`, `m < d = red.length`, of `a ↦ Im <0|U_x(a)|0>` for the symmetric protocol with
       reduced phases `red`, and of its partial derivative with respect to reduced phase `j` —
       are DEFINED (as finite means of values of the function, `cosCoefF`), shown to expand the
       two functions, shown unique, and each coefficient `c_m` is differentiable in each reduced
       phase with derivative the coefficient `D_{j,m}` of the partial derivative function.
  (G2) the rational lists returned by the executable `jacSpec` (which works with `bits`-bit
       enclosure CENTRES of the cosines / sines) are, entry by entry, within the executable bound
       `jacErr par bits reduced` (`QSP/Model/JacErr.lean`) of `chebCoefs` resp. `dCoefs`.
       Constants: with `E = jacErrPt` the pointwise spectral-norm bound of `fromAnglesBall`
       for the full phase list, the value functional is pointwise within `E`,
       a column functional within `2 E` (the chain factors of one reduced phase add up to 2; the
       derivative pair `(−sin φ, cos φ)` is enclosed with the same radius as `(cos φ, sin φ)`),
       and a cosine coefficient is bounded by TWICE the sup of the function (finite mean with
       weight `2/N`): value entries `≤ 2 E`, column entries `≤ 4 E = jacErr`.

  Mathematical definitions: `respDef` (`QSP/Proofs/RespDef.lean`), `Ucirc`
  (`QSP/Proofs/BallSound.lean`), `layout` (`QSP/Model/SymQSP.lean`), `jacDPairs`, `prC`,
  `specPairs`, `cosGen` (`QSP/Proofs/Jacobian.lean`).  The lemmas other modules use as well are
  in `QSP/Proofs/JacCoeff.lean`.

  Not here: that the code computes these numbers.  Its algorithm in exact arithmetic is C12d; its
  rounding is carried by the harness comparison of `gen_jacobian()` with `jacSpec`, whose tolerance
  includes `jacErr`.
-/
import QSP.Proofs.JacCoeff
open Matrix Complex
namespace QSP.C12c
open QSP

/-! ### the definitions, spelled out -/

/-- the cosine series of a REAL coefficient list (`cosGen` of C12b is the same on `List ℚ`) -/
theorem cosGenR_def (par d : ℕ) (c : List ℝ) (θ : ℝ) :
    cosGenR par d c θ
      = ∑ k ∈ Finset.range d, c.getD k 0 * Real.cos (((2 * k + par : ℕ) : ℝ) * θ) := rfl

/-- `cosGen` on a rational list is `cosGenR` on its cast -/
theorem cosGen_eq_cosGenR (par d : ℕ) (c : List ℚ) (θ : ℝ) :
    cosGen par d c θ = cosGenR par d (c.map (fun q : ℚ => (q : ℝ))) θ :=
  QSP.cosGen_eq_cosGenR par d c θ

/-- … and in Chebyshev form: `Σ_k c_k T_{2k+par}(cos θ)` -/
theorem cosGenR_T (par d : ℕ) (c : List ℝ) (θ : ℝ) :
    cosGenR par d c θ = ∑ k ∈ Finset.range d, c.getD k 0 *
      (Polynomial.Chebyshev.T ℝ ((2 * k + par : ℕ) : ℤ)).eval (Real.cos θ) := by
  unfold cosGenR
  exact Finset.sum_congr rfl fun k _ => by
    rw [Polynomial.Chebyshev.T_real_cos, Int.cast_natCast]

/-- the coefficient functional: the `m`-th cosine coefficient (frequency `2m+par`) of `g` as a
    finite mean over the `N = 4d+1` equispaced nodes `θ_r = 2π r/N` of the circle -/
theorem cosCoefF_def (par d : ℕ) (g : ℝ → ℝ) (m : ℕ) :
    cosCoefF par d g m
      = (if 2 * m + par = 0 then (1 : ℝ) else 2) / ((4 * d + 1 : ℕ) : ℝ) *
        ∑ r ∈ Finset.range (4 * d + 1),
          g (2 * Real.pi * (r : ℝ) / ((4 * d + 1 : ℕ) : ℝ))
            * Real.cos (((2 * m + par : ℕ) : ℝ) * (2 * Real.pi * (r : ℝ) / ((4 * d + 1 : ℕ) : ℝ))) :=
  rfl

/-- `chebCoefs par red` : the functional applied to `θ ↦ Im <+|Ucirc θ (layout par red)|+>`
    (which on the upper half circle is `Im <0|U_x(cos θ)|0>`, `respIm_eq_respDef`) -/
theorem chebCoefs_def (par : ℕ) (red : List ℝ) :
    chebCoefs par red = (List.range red.length).map
      (cosCoefF par red.length (fun θ => (brG .x (Ucirc θ (layout (par : ℤ) red))).im)) := rfl

/-- `dCoefs par red j` : the functional applied to `θ ↦ Im <+| jacDPairs θ … j |+>` at the EXACT
    pairs `(cos φ, sin φ)` of the full phase list — by C12b the true partial derivative -/
theorem dCoefs_def (par : ℕ) (red : List ℝ) (j : ℕ) :
    dCoefs par red j = (List.range red.length).map
      (cosCoefF par red.length (fun θ =>
        (brG .x (jacDPairs θ par red.length ((layout (par : ℤ) red).map prC) j)).im)) := rfl

/-- `respIm` : the `<+| · |+>` corner of the circle product of the full phase list, imaginary
    part, at EVERY point `e^{iθ}` of the circle -/
theorem respIm_def (par : ℕ) (red : List ℝ) (θ : ℝ) :
    respIm par red θ = (brG .x (Ucirc θ (layout (par : ℤ) red))).im := rfl

/-- `dRespIm` : the same corner of the product-rule functional `jacDPairs` at the exact pairs -/
theorem dRespIm_def (par : ℕ) (red : List ℝ) (j : ℕ) (θ : ℝ) :
    dRespIm par red j θ
      = (brG .x (jacDPairs θ par red.length ((layout (par : ℤ) red).map prC) j)).im := rfl

/-- on the upper half circle `respIm` is `Im <0|U_x(cos θ)|0>` of the definition -/
theorem respIm_eq_respDef (par : ℕ) (red : List ℝ) (θ : ℝ) (hθ : 0 ≤ Real.sin θ) :
    respIm par red θ = (respDef .Wx .z (layout (par : ℤ) red) (Real.cos θ)).im :=
  QSP.respIm_eq_respDef par red θ hθ

/-- there are `d = red.length` coefficients -/
theorem chebCoefs_length (par : ℕ) (red : List ℝ) : (chebCoefs par red).length = red.length :=
  coefList_length _ _ _

/-- … and `d` derivative coefficients for each reduced phase -/
theorem dCoefs_length (par : ℕ) (red : List ℝ) (j : ℕ) : (dCoefs par red j).length = red.length :=
  coefList_length _ _ _

/-! ### the coefficient functional -/

/-- it recovers the coefficients of every cosine sum of the parity class -/
theorem cosCoefF_cosSum (par d : ℕ) (hpar : par ≤ 1) (a : ℕ → ℝ) (m : ℕ) (hm : m < d) :
    cosCoefF par d
      (fun θ => ∑ k ∈ Finset.range d, a k * Real.cos (((2 * k + par : ℕ) : ℝ) * θ)) m = a m :=
  QSP.cosCoefF_cosSum par d hpar a m hm

/-- it is bounded by TWICE the sup of the function -/
theorem abs_cosCoefF_le (par d : ℕ) (g : ℝ → ℝ) (B : ℝ) (hB : ∀ θ, |g θ| ≤ B) (m : ℕ) :
    |cosCoefF par d g m| ≤ 2 * B := QSP.abs_cosCoefF_le par d g B hB m

/-- it commutes with differentiation with respect to a parameter -/
theorem hasDerivAt_cosCoefF (par d : ℕ) (g : ℝ → ℝ → ℝ) (g' : ℝ → ℝ) (x : ℝ)
    (h : ∀ θ, HasDerivAt (fun t => g t θ) (g' θ) x) (m : ℕ) :
    HasDerivAt (fun t => cosCoefF par d (g t) m) (cosCoefF par d g' m) x :=
  QSP.hasDerivAt_cosCoefF par d g g' x h m

/-! ### (G1) the expansions -/

/-- VALUE: for `θ` on the upper half circle (`a = cos θ` ranges over `[-1, 1]`),
    `Im <0|U_x(cos θ)|0> = Σ_{m<d} c_m cos((2m+par) θ)` with `c = chebCoefs par red` -/
theorem resp_im_eq_cosGenR (par : ℕ) (hpar : par ≤ 1) (red : List ℝ) (hr : red ≠ []) (θ : ℝ)
    (hθ : 0 ≤ Real.sin θ) :
    (respDef .Wx .z (layout (par : ℤ) red) (Real.cos θ)).im
      = cosGenR par red.length (chebCoefs par red) θ := by
  rw [← respIm_eq_respDef par red θ hθ, respIm_eq_cosGenR par hpar red hr]

/-- … in Chebyshev form, for every signal value: `Im <0|U_x(a)|0> = Σ_{m<d} c_m T_{2m+par}(a)` -/
theorem resp_im_eq_cheb (par : ℕ) (hpar : par ≤ 1) (red : List ℝ) (hr : red ≠ []) (a : ℝ)
    (ha : a ∈ Set.Icc (-1 : ℝ) 1) :
    (respDef .Wx .z (layout (par : ℤ) red) a).im
      = ∑ k ∈ Finset.range red.length, (chebCoefs par red).getD k 0 *
          (Polynomial.Chebyshev.T ℝ ((2 * k + par : ℕ) : ℤ)).eval a := by
  obtain ⟨θ, hθ, rfl⟩ := exists_theta_of_mem_Icc a ha
  rw [resp_im_eq_cosGenR par hpar red hr θ hθ, cosGenR_T]

/-- … and on the WHOLE circle for the circle product -/
theorem respIm_eq_cosGenR (par : ℕ) (hpar : par ≤ 1) (red : List ℝ) (hr : red ≠ []) (θ : ℝ) :
    (brG .x (Ucirc θ (layout (par : ℤ) red))).im = cosGenR par red.length (chebCoefs par red) θ :=
  QSP.respIm_eq_cosGenR par hpar red hr θ

/-- DERIVATIVE FUNCTION: `Im <+| jacDPairs θ … j |+>` at the exact pairs
    `= Σ_{m<d} D_m cos((2m+par) θ)` with `D = dCoefs par red j`, on the whole circle -/
theorem dRespIm_eq_cosGenR (par : ℕ) (hpar : par ≤ 1) (red : List ℝ) (hr : red ≠ []) (j : ℕ)
    (θ : ℝ) :
    (brG .x (jacDPairs θ par red.length ((layout (par : ℤ) red).map prC) j)).im
      = cosGenR par red.length (dCoefs par red j) θ :=
  QSP.dRespIm_eq_cosGenR par hpar red hr j θ

/-- … so that, against the definition of the response: for `θ` on the upper half circle the
    TRUE partial derivative of `Im <0|U_x(cos θ)|0>` with respect to reduced phase `j` is the
    cosine series of `dCoefs par red j` -/
theorem hasDerivAt_resp_im_cosGenR (par : ℕ) (hpar : par ≤ 1) (red : List ℝ) (j : ℕ)
    (hj : j < red.length) (θ : ℝ) (hθ : 0 ≤ Real.sin θ) :
    HasDerivAt (fun t => (respDef .Wx .z (layout (par : ℤ) (red.set j t)) (Real.cos θ)).im)
      (cosGenR par red.length (dCoefs par red j) θ) (red.getD j 0) := by
  have hr : red ≠ [] := ne_nil_of_lt_length hj
  rw [← dRespIm_eq_cosGenR par hpar red hr]
  exact hasDerivAt_resp_layout_im_pairs θ hθ par red j hj

/-- UNIQUENESS: any list of `d` reals expanding `Im <0|U_x(cos θ)|0>` on the upper half circle
    is `chebCoefs par red` — the particular definition chosen is immaterial -/
theorem chebCoefs_unique (par : ℕ) (hpar : par ≤ 1) (red : List ℝ) (hr : red ≠ []) (c : List ℝ)
    (hlen : c.length = red.length)
    (h : ∀ θ : ℝ, 0 ≤ Real.sin θ →
      (respDef .Wx .z (layout (par : ℤ) red) (Real.cos θ)).im = cosGenR par red.length c θ) :
    c = chebCoefs par red := QSP.chebCoefs_unique par hpar red hr c hlen h

/-- … and any list of `d` reals expanding the partial derivative function is `dCoefs par red j` -/
theorem dCoefs_unique (par : ℕ) (hpar : par ≤ 1) (red : List ℝ) (hr : red ≠ []) (j : ℕ)
    (c : List ℝ) (hlen : c.length = red.length)
    (h : ∀ θ : ℝ, 0 ≤ Real.sin θ →
      (brG .x (jacDPairs θ par red.length ((layout (par : ℤ) red).map prC) j)).im
        = cosGenR par red.length c θ) :
    c = dCoefs par red j :=
  (isCosPoly_dRespIm par hpar red hr j).coefList_unique hpar c hlen h

/-! ### (G1) the derivative of each coefficient -/

/-- every Chebyshev coefficient `c_m` of `Im <0|U_x(a)|0>` is differentiable in each reduced
    phase `j`, and `∂ c_m / ∂ red_j = D_{j,m}`, the `m`-th Chebyshev coefficient of the partial
    derivative function (for every `m`; both sides are `0` for `m ≥ d`) -/
theorem hasDerivAt_chebCoefs (par : ℕ) (red : List ℝ) (j : ℕ) (hj : j < red.length) (m : ℕ) :
    HasDerivAt (fun t => (chebCoefs par (red.set j t)).getD m 0) ((dCoefs par red j).getD m 0)
      (red.getD j 0) := QSP.hasDerivAt_chebCoefs par red j hj m

/-! ### (G2) quantitative enclosure of the executable `jacSpec` -/

/-- `E = jacErrPt` : the pointwise spectral-norm bound that `fromAnglesBall` returns for the full
    phase list `layout par reduced` (executable, `QSP/Model/JacErr.lean`) -/
theorem jacErrPt_def (par bits : ℕ) (reduced : List ℚ) :
    jacErrPt par bits reduced
      = (prodErr ((enclList bits (layout (par : ℤ) reduced)).map Encl.rotBound) (1, 0)).2 := rfl

/-- the coefficient-wise bound `jacErr = 4 E` -/
theorem jacErr_def (par bits : ℕ) (reduced : List ℚ) :
    jacErr par bits reduced = 4 * jacErrPt par bits reduced := rfl

/-- POINTWISE, value: the centre functional whose coefficients `jacSpec` returns as `f`
    (`jacSpec_spec` of C12b) against the exact one, at every point of the circle: `≤ E` -/
theorem jacSpec_value_pt (par bits : ℕ) (reduced : List ℚ) (hr : reduced ≠ []) (θ : ℝ) :
    |(brG .x (UcircPairs θ (specPairs par bits reduced))).im
        - (brG .x (Ucirc θ (layout (par : ℤ) (reduced.map (fun q : ℚ => (q : ℝ)))))).im|
      ≤ ((jacErrPt par bits reduced : ℚ) : ℝ) := QSP.jacSpec_value_pt par bits reduced hr θ

/-- POINTWISE, column `j`: the centre product-rule functional against the exact one (the true
    partial derivative), at every point of the circle: `≤ 2 E` -/
theorem jacSpec_col_pt (par bits : ℕ) (hpar : par ≤ 1) (reduced : List ℚ) (j : ℕ)
    (hj : j < reduced.length) (θ : ℝ) :
    |(brG .x (jacDPairs θ par reduced.length (specPairs par bits reduced) j)).im
        - dRespIm par (reduced.map (fun q : ℚ => (q : ℝ))) j θ|
      ≤ 2 * ((jacErrPt par bits reduced : ℚ) : ℝ) :=
  QSP.jacSpec_col_pt par bits hpar reduced j hj θ

/-- VALUE list of `jacSpec`: entry `m` is within `jacErr` of the true coefficient `c_{2m+par}` -/
theorem jacSpec_value_err (par : ℕ) (hpar : par ≤ 1) (bits : ℕ) (reduced f : List ℚ)
    (cols : List (List ℚ)) (h : jacSpec par bits reduced = .ok (f, cols)) (m : ℕ)
    (hm : m < reduced.length) :
    |((f.getD m 0 : ℚ) : ℝ) - (chebCoefs par (reduced.map (fun q : ℚ => (q : ℝ)))).getD m 0|
      ≤ ((jacErr par bits reduced : ℚ) : ℝ) :=
  QSP.jacSpec_value_err par hpar bits reduced f cols h m hm

/-- … sharper: within `2 E = jacErr / 2` -/
theorem jacSpec_value_err' (par : ℕ) (hpar : par ≤ 1) (bits : ℕ) (reduced f : List ℚ)
    (cols : List (List ℚ)) (h : jacSpec par bits reduced = .ok (f, cols)) (m : ℕ)
    (hm : m < reduced.length) :
    |((f.getD m 0 : ℚ) : ℝ) - (chebCoefs par (reduced.map (fun q : ℚ => (q : ℝ)))).getD m 0|
      ≤ 2 * ((jacErrPt par bits reduced : ℚ) : ℝ) :=
  QSP.jacSpec_value_err' par hpar bits reduced f cols h m hm

/-- COLUMN list of `jacSpec`: entry `(j, m)` is within `jacErr` of `D_{j,m}`, the `m`-th
    Chebyshev coefficient of the true partial derivative with respect to reduced phase `j` -/
theorem jacSpec_col_err (par : ℕ) (hpar : par ≤ 1) (bits : ℕ) (reduced f : List ℚ)
    (cols : List (List ℚ)) (h : jacSpec par bits reduced = .ok (f, cols)) (j : ℕ)
    (hj : j < reduced.length) (m : ℕ) (hm : m < reduced.length) :
    |(((cols.getD j []).getD m 0 : ℚ) : ℝ)
        - (dCoefs par (reduced.map (fun q : ℚ => (q : ℝ))) j).getD m 0|
      ≤ ((jacErr par bits reduced : ℚ) : ℝ) :=
  QSP.jacSpec_col_err par hpar bits reduced f cols h j hj m hm

/-- (G1 + G2) entry `(j, m)` of the column list of `jacSpec` is within `jacErr` of the
    TRUE partial derivative, with respect to reduced phase `j`, of the TRUE Chebyshev coefficient
    `c_{2m+par}` of `Im <0|U_x(a)|0>` -/
theorem jacSpec_col_deriv (par : ℕ) (hpar : par ≤ 1) (bits : ℕ) (reduced f : List ℚ)
    (cols : List (List ℚ)) (h : jacSpec par bits reduced = .ok (f, cols)) (j : ℕ)
    (hj : j < reduced.length) (m : ℕ) (hm : m < reduced.length) :
    |(((cols.getD j []).getD m 0 : ℚ) : ℝ)
        - deriv (fun t : ℝ =>
            (chebCoefs par ((reduced.map (fun q : ℚ => (q : ℝ))).set j t)).getD m 0)
          ((reduced.getD j 0 : ℚ) : ℝ)|
      ≤ ((jacErr par bits reduced : ℚ) : ℝ) :=
  QSP.jacSpec_col_deriv par hpar bits reduced f cols h j hj m hm

/-! ### closed-form instances (sanity of conventions) -/

/-- one reduced phase, odd class (full list `[φ, φ]`, `<0|U_x(a)|0> = e^{2iφ} a`):
    the single coefficient is `sin 2φ` (of `T_1`) … -/
theorem chebCoefs_one_odd (φ : ℝ) : chebCoefs 1 [φ] = [Real.sin (2 * φ)] := by
  have h : respIm 1 [φ] = cosGenR 1 1 [Real.sin (2 * φ)] := by
    funext θ
    rw [respIm_one_odd, cosGenR_one, Nat.cast_one, one_mul]
  rw [chebCoefs, h]
  exact coefList_cosGenR 1 1 le_rfl _ rfl

/-- … and its derivative coefficient is `2 cos 2φ`, obtained from the general derivative theorem -/
theorem dCoefs_one_odd (φ : ℝ) : dCoefs 1 [φ] 0 = [2 * Real.cos (2 * φ)] := by
  have h1 := hasDerivAt_chebCoefs 1 [φ] 0 Nat.one_pos 0
  simp only [List.set_cons_zero, chebCoefs_one_odd, List.getD_cons_zero] at h1
  have h2 := ((hasDerivAt_const_mul (2 : ℝ)).sin (x := φ)).congr_deriv (mul_comm _ _)
  obtain ⟨x, hx⟩ := List.length_eq_one_iff.mp (dCoefs_length 1 [φ] 0)
  rw [hx] at h1 ⊢
  exact congrArg (fun a => [a]) (h1.unique h2)

/-- one reduced phase, even class (full list `[2φ]`, `<0|U_x(a)|0> = e^{2iφ}`):
    the single coefficient is `sin 2φ` (of `T_0`) -/
theorem chebCoefs_one_even (φ : ℝ) : chebCoefs 0 [φ] = [Real.sin (2 * φ)] := by
  have h : respIm 0 [φ] = cosGenR 0 1 [Real.sin (2 * φ)] := by
    funext θ
    rw [respIm_one_even, cosGenR_one, Nat.cast_zero, zero_mul, Real.cos_zero, mul_one]
  rw [chebCoefs, h]
  exact coefList_cosGenR 0 1 zero_le_one _ rfl

/-! ### non-vacuity -/

/-- the kernel-checked value of the bound used in the examples below -/
theorem jacErr_small :
    0 < jacErr 1 70 [1 / 4, 1 / 3] ∧ jacErr 1 70 [1 / 4, 1 / 3] < 1 / 10 ^ 15 := by decide +kernel

/-- the bound is a small positive rational on a concrete input (70-bit enclosures) -/
example : 0 < jacErr 1 70 [1 / 4, 1 / 3] ∧ jacErr 1 70 [1 / 4, 1 / 3] < 1 / 10 ^ 15 :=
  jacErr_small

example : 0 < jacErr 0 70 [1 / 4, 1 / 3] ∧ jacErr 0 70 [1 / 4, 1 / 3] < 1 / 10 ^ 15 := by
  decide +kernel

/-- (G1) at a concrete list: hypotheses are satisfiable -/
example : HasDerivAt (fun t : ℝ => (chebCoefs 1 (([1 / 4, 1 / 3] : List ℝ).set 1 t)).getD 0 0)
    ((dCoefs 1 [1 / 4, 1 / 3] 1).getD 0 0) (1 / 3) :=
  hasDerivAt_chebCoefs 1 [1 / 4, 1 / 3] 1 (by simp) 0

example (θ : ℝ) (hθ : 0 ≤ Real.sin θ) :
    (respDef .Wx .z (layout ((0 : ℕ) : ℤ) ([1 / 4, 1 / 3] : List ℝ)) (Real.cos θ)).im
      = cosGenR 0 2 (chebCoefs 0 [1 / 4, 1 / 3]) θ :=
  resp_im_eq_cosGenR 0 (by norm_num) [1 / 4, 1 / 3] (by simp) θ hθ

/-- (G2) end to end on a concrete input: `jacSpec` returns, and every returned entry is within
    `10⁻¹⁵` of the true coefficient resp. of the true partial derivative of the true coefficient -/
example : ∃ f cols, jacSpec 1 70 [1 / 4, 1 / 3] = .ok (f, cols) ∧
    (∀ m < 2, |((f.getD m 0 : ℚ) : ℝ)
        - (chebCoefs 1 (([1 / 4, 1 / 3] : List ℚ).map (fun q : ℚ => (q : ℝ)))).getD m 0|
      < 1 / 10 ^ 15) ∧
    (∀ j < 2, ∀ m < 2, |(((cols.getD j []).getD m 0 : ℚ) : ℝ)
        - deriv (fun t : ℝ => (chebCoefs 1
            ((([1 / 4, 1 / 3] : List ℚ).map (fun q : ℚ => (q : ℝ))).set j t)).getD m 0)
          (((([1 / 4, 1 / 3] : List ℚ).getD j 0 : ℚ)) : ℝ)|
      < 1 / 10 ^ 15) := by
  have hok : (jacSpec 1 70 [1 / 4, 1 / 3]).toBool = true := by decide +kernel
  have hE' : ((jacErr 1 70 [1 / 4, 1 / 3] : ℚ) : ℝ) < 1 / 10 ^ 15 := by
    have h1 := (Rat.cast_lt (K := ℝ)).mpr jacErr_small.2
    have h2 : ((1 / 10 ^ 15 : ℚ) : ℝ) = 1 / 10 ^ 15 := by norm_num
    rwa [h2] at h1
  match h : jacSpec 1 70 [1 / 4, 1 / 3] with
  | .error e => rw [h] at hok; cases hok
  | .ok (f, cols) =>
    refine ⟨f, cols, rfl, fun m hm => ?_, fun j hj m hm => ?_⟩
    · exact (jacSpec_value_err 1 le_rfl 70 _ f cols h m hm).trans_lt hE'
    · exact (jacSpec_col_deriv 1 le_rfl 70 _ f cols h j hj m hm).trans_lt hE'

end QSP.C12c
