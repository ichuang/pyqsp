import QSP.Model.LPoly
import QSP.Model.LAlg
import QSP.Model.Hist
import QSP.Model.Sup
import QSP.Model.Trig
import QSP.Model.Response
import QSP.Model.Cheb
import QSP.Model.Ball
import QSP.Model.Validators
import QSP.Model.Proto
import QSP.Proofs.Trig
import QSP.Proofs.Ball
import QSP.Proofs.EvalC
import QSP.Proofs.RespDef
import QSP.Proofs.L2Kit
import QSP.Proofs.Response
import QSP.Proofs.AnglesEval
import QSP.Properties.C08
import QSP.Properties.C09
import QSP.Properties.C10
import QSP.Properties.C11
import QSP.Properties.Sup
import QSP.Model.SymQSP
import QSP.Model.Jacobian
import QSP.Model.Generators
import QSP.Proofs.BallSound
import QSP.Proofs.Series
import QSP.Proofs.ValidCore
import QSP.Model.Accuracy
import QSP.Properties.C14
import QSP.Properties.C17
import QSP.Properties.C01
import QSP.Properties.C02
import QSP.Properties.C03
import QSP.Properties.C04
import QSP.Properties.C05
import QSP.Properties.C06
import QSP.Properties.C07
import QSP.Properties.C12
import QSP.Properties.C13
import QSP.Properties.C13Flow
import QSP.Properties.C15
import QSP.Model.FPSearch
import QSP.Properties.C16
import QSP.Model.Pipeline
import QSP.Properties.C19
import QSP.Model.Cli
import QSP.Properties.C20
import QSP.Properties.C18
import QSP.Model.Interleave
import QSP.Model.Completion
import QSP.Properties.C06b
import QSP.Properties.C05b
import QSP.Proofs.Jacobian
import QSP.Properties.C12b
import QSP.Model.Decomp
import QSP.Proofs.Decomp
import QSP.Properties.C06c
import QSP.Proofs.LsqDct
import QSP.Properties.C16b
import QSP.Model.LinSys
import QSP.Proofs.LinSys
import QSP.Properties.C06d
import QSP.Model.JacErr
import QSP.Proofs.JacCoeff
import QSP.Properties.C12c
import QSP.Properties.C09b
import QSP.Properties.C08b
import QSP.Proofs.Periodic
import QSP.Properties.C10b
import QSP.Model.DecompSplit
import QSP.Proofs.DecompSolve
import QSP.Properties.C03b
import QSP.Properties.C06e
import QSP.Proofs.DecompUnique
import QSP.Proofs.GammaDelta
import QSP.Properties.C18b
import QSP.Model.JacImpl
import QSP.Proofs.JacImplCore
import QSP.Proofs.JacImplSym
import QSP.Proofs.JacImpl
import QSP.Proofs.JacAsm
import QSP.Properties.C12d
import QSP.Proofs.DecompRec
import QSP.Properties.C06f
import QSP.Model.JacImplErr
import QSP.Proofs.JacImplMap
import QSP.Proofs.JacImplPert
import QSP.Proofs.JacImplErr
import QSP.Properties.C12e
import QSP.Proofs.Gauge
import QSP.Properties.C06g
import QSP.Model.PQCompletion
import QSP.Proofs.PQCompletion
import QSP.Properties.C05c
import QSP.Proofs.JacAsmErr
import QSP.Properties.C12f
import QSP.Proofs.GaugePhases
import QSP.Properties.C06h
import QSP.Proofs.FGComplete
import QSP.Properties.C04b
import QSP.Proofs.RootSpec
import QSP.Properties.C03c
import QSP.Properties.C03d
